/-
  C06 — Boolean operators follow FHIRPath three-valued logic for every operand form.
  `FP.Gen.Bool3` is regenerated from booleans.go on every run.
-/
import FP.Model.Bool
import FP.Ref.Bool3
import FP.Lemmas.Bool
import FP.Lemmas.Eval
import FP.Lemmas.Coll
namespace FP.Props.C06
open FP FP.Go FP.Model FP.Ref FP.Gen.Bool3

/-- what a FHIRPath operand *means* as a truth value: empty = unknown, a Boolean = itself,
    any other single item = true, more than one item = not a truth value. -/
def meaning (c : List BItem) : Option Tri :=
  meaningOf (c.map fun | .bool b => some b | .other => none)

def ref (op : BoolOp) : Tri → Tri → Tri :=
  match op with
  | .and => and3 | .or => or3 | .xor => xor3 | .implies => implies3

/-- The four regenerated tables equal the specification tables on every pair of
    three-valued operands. -/
theorem tables_match_spec (op : BoolOp) (a b : Tri) :
    table op a.toList b.toList = some (ref op a b).toList := by
  cases op <;> rcases a with _ | _ | _ <;> rcases b with _ | _ | _ <;> rfl

/-- The regenerated tables never trap (index out of range), for lists of *any* length. -/
theorem tables_never_panic (op : BoolOp) (l r : List Bool) : (table op l r).isSome :=
  FP.Lemmas.table_isSome op l r

/-- Singleton rule: empty is unknown, a Boolean is itself, a single non-Boolean is true,
    more than one item is an error — never silently the first item. -/
theorem singleton_rule (c : List BItem) :
    toSingletonBoolean c = (match meaning c with
      | some t => .ok t.toList
      | none => .err "not-singleton") := by
  -- the code looks at the first item before the length: `cases x` also where there are more
  rcases c with _ | ⟨x, _ | ⟨y, c⟩⟩
  · rfl
  · cases x <;> rfl
  · cases x <;> rfl

/-- The same rule governs `ToBool` (criteria of where/exists/all/iif, EvaluateAsBool),
    except that unknown reads as false there. -/
theorem toBool_agrees (c : List BItem) :
    toBool c = (toSingletonBoolean c).bind (fun l => .ok (l.headD false)) := by
  rcases c with _ | ⟨x, _ | ⟨y, c⟩⟩
  · rfl
  · cases x <;> rfl
  · cases x <;> rfl

/-- End to end: the operator applied to two operand collections returns exactly the
    specification's table value of their meanings, and is an error as soon as one operand has
    more than one item. -/
theorem boolExpr_spec (op : BoolOp) (l r : List BItem) :
    boolExpr op l r = (match meaning l, meaning r with
      | some a, some b => .ok (ref op a b).toList
      | _, _ => .err "not-singleton") := by
  simp only [boolExpr, Res.monad_bind, singleton_rule]
  cases meaning l with
  | none => rfl
  | some a =>
    cases meaning r with
    | none => rfl
    | some b => simp only [Res.ok_bind, tables_match_spec, Res.ofOption]

theorem ref_comm (op : BoolOp) (h : op ≠ .implies) (a b : Tri) : ref op a b = ref op b a := by
  cases op
  · rcases a with _ | _ | _ <;> rcases b with _ | _ | _ <;> rfl
  · rcases a with _ | _ | _ <;> rcases b with _ | _ | _ <;> rfl
  · rcases a with _ | _ | _ <;> rcases b with _ | _ | _ <;> rfl
  · exact absurd rfl h

theorem and_comm (a b : Tri) : table .and a.toList b.toList = table .and b.toList a.toList := by
  rw [tables_match_spec, tables_match_spec, ref_comm .and (by decide)]
theorem or_comm (a b : Tri) : table .or a.toList b.toList = table .or b.toList a.toList := by
  rw [tables_match_spec, tables_match_spec, ref_comm .or (by decide)]
theorem xor_comm (a b : Tri) : table .xor a.toList b.toList = table .xor b.toList a.toList := by
  rw [tables_match_spec, tables_match_spec, ref_comm .xor (by decide)]

/-- commutativity at the level of whole operand collections (errors included) -/
theorem boolExpr_comm (op : BoolOp) (h : op ≠ .implies) (l r : List BItem) :
    boolExpr op l r = boolExpr op r l := by
  rw [boolExpr_spec, boolExpr_spec]
  cases meaning l <;> cases meaning r <;> simp [ref_comm op h]

/-- De Morgan: `(a and b).not() = a.not() or b.not()` and dually. -/
theorem de_morgan_and (a b : Tri) :
    (table .and a.toList b.toList).map (·.map (!·)) = table .or (not3 a).toList (not3 b).toList := by
  rcases a with _ | _ | _ <;> rcases b with _ | _ | _ <;> rfl
theorem de_morgan_or (a b : Tri) :
    (table .or a.toList b.toList).map (·.map (!·)) = table .and (not3 a).toList (not3 b).toList := by
  rcases a with _ | _ | _ <;> rcases b with _ | _ | _ <;> rfl

/-- `a implies b` equals `a.not() or b`. -/
theorem implies_eq_not_or (a b : Tri) :
    table .implies a.toList b.toList = table .or (not3 a).toList b.toList := by
  rcases a with _ | _ | _ <;> rcases b with _ | _ | _ <;> rfl

/-- `not()` on an operand collection is `not3` of its meaning. -/
theorem notFn_spec (c : List BItem) :
    notFn c = (match meaning c with
      | some t => .ok (not3 t).toList
      | none => .err "not-singleton") := by
  rcases c with _ | ⟨x, _ | ⟨y, c⟩⟩
  · rfl
  · cases x <;> rfl
  · cases x <;> rfl

example : boolExpr .and [.other] [] = .ok [] := rfl
example : boolExpr .or [.bool false, .bool true] [.bool true] = .err "not-singleton" := rfl
example : boolExpr .implies [] [.other] = .ok [true] := rfl

/-! ### the singleton rule in criteria, on whole expressions (the assembled evaluator, FP.Model.Eval) -/

section Expr
open FP.Model.Eval

/-- a criterion that evaluates to MORE THAN ONE item on some input item is an error in `where`, `exists`,
    `all` and `iif` alike — never silently its first item -/
theorem expr_criterion_multi_item_is_error (env : Env) (p t : E) (x : Val) (rest : List Val) (a b : Val) (r : List Val)
    (hx : eval env p [x] = .ok (a :: b :: r)) :
    eval env (.fn "where" (.argCons p .argNil)) (x :: rest) = .err "not-singleton" ∧
    eval env (.fn "exists" (.argCons p .argNil)) (x :: rest) = .err "not-singleton" ∧
    eval env (.fn "all" (.argCons p .argNil)) (x :: rest) = .err "not-singleton" ∧
    eval env (.fn "iif" (.argCons p (.argCons t .argNil))) [x] = .err "not-singleton" := by
  have hc : (crit (eval env p) x).bind Model.toBool = .err "not-singleton" := by
    simp [crit, hx, Model.toBool]
  refine ⟨?_, ?_, ?_, ?_⟩
  · rw [eval_where, FP.Lemmas.Coll.whereFn_cons, hc]; rfl
  · rw [eval_exists1, existsFn, FP.Lemmas.Coll.whereFn_cons, hc]; rfl
  · rw [eval_all, FP.Lemmas.Coll.allFn_cons, hc]; rfl
  · rw [eval_fn2 (by decide), apply2, hx]; simp [Model.toBool]

/-- a criterion that evaluates to a single item that is no Boolean counts as true; to nothing, as not true -/
theorem expr_criterion_single_item (env : Env) (p : E) (x v : Val) (hv : ∀ b, v ≠ .bool b) :
    (eval env p [x] = .ok [v] →
      eval env (.fn "where" (.argCons p .argNil)) [x] = .ok [x] ∧ eval env (.fn "all" (.argCons p .argNil)) [x] = .ok [.bool true]) ∧
    (eval env p [x] = .ok [] →
      eval env (.fn "where" (.argCons p .argNil)) [x] = .ok [] ∧ eval env (.fn "all" (.argCons p .argNil)) [x] = .ok [.bool false]) := by
  have hb : toB v = .other := by
    cases v <;> simp [toB] <;> exact absurd rfl (hv _)
  refine ⟨fun h => ?_, fun h => ?_⟩
  · have hc : (crit (eval env p) x).bind Model.toBool = .ok true := by simp [crit, h, hb, Model.toBool]
    exact ⟨by rw [eval_where, FP.Lemmas.Coll.whereFn_cons, hc]; rfl, by rw [eval_all, FP.Lemmas.Coll.allFn_cons, hc]; rfl⟩
  · have hc : (crit (eval env p) x).bind Model.toBool = .ok false := by simp [crit, h, Model.toBool]
    exact ⟨by rw [eval_where, FP.Lemmas.Coll.whereFn_cons, hc]; rfl, by rw [eval_all, FP.Lemmas.Coll.allFn_cons, hc]; rfl⟩

/-- the connectives on whole expressions are the tables applied to the operands' singleton readings -/
theorem expr_connective (env : Env) (op : BoolOp) (l r : E) (input lv rv : List Val)
    (hl : eval env l input = .ok lv) (hr : eval env r input = .ok rv) :
    eval env (.bool op l r) input = mapRes bools (boolExpr op (lv.map toB) (rv.map toB)) := by
  rw [eval_bool, hl, hr, Res.ok_bind, Res.ok_bind]

end Expr

end FP.Props.C06
