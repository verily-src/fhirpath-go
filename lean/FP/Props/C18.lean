/-
  C18 — FHIRPatch operations change exactly the targeted element, or nothing.
  Theorems over the model of patch.go (FP.Model.Patch): the store of messages after an operation.
-/
import FP.Model.Patch
import FP.Lemmas.Patch
namespace FP.Props.C18
open FP FP.Model.Patch FP.Lemmas.Patch

/-! ### an operation that does not succeed leaves every message as it was -/

theorem add_error_unchanged (s : Store) (camelOk resNil : Bool) (v : ValFacts) (evalErr : Bool) (result : List Item) (snake : String)
    (h : (addOp s camelOk resNil v evalErr result snake).2 ≠ .ok) : (addOp s camelOk resNil v evalErr result snake).1 = s :=
  run_error_unchanged _ _ h
theorem delete_error_unchanged (s : Store) (resNil evalErr : Bool) (last beforeLast result : List Item)
    (h : (deleteOp s resNil evalErr last beforeLast result).2 ≠ .ok) : (deleteOp s resNil evalErr last beforeLast result).1 = s :=
  run_error_unchanged _ _ h
theorem insert_error_unchanged (s : Store) (resNil evalErr : Bool) (last result : List Item) (v : ValFacts) (index : Int)
    (h : (insertOp s resNil evalErr last result v index).2 ≠ .ok) : (insertOp s resNil evalErr last result v index).1 = s :=
  run_error_unchanged _ _ h
theorem replace_error_unchanged (s : Store) (resNil evalErr : Bool) (last beforeLast result : List Item) (v : ValFacts)
    (h : (replaceOp s resNil evalErr last beforeLast result v).2 ≠ .ok) : (replaceOp s resNil evalErr last beforeLast result v).1 = s :=
  run_error_unchanged _ _ h

/-- deleting an absent element succeeds without change -/
theorem delete_absent (s : Store) (last beforeLast : List Item) :
    deleteOp s false false last beforeLast [] = (s, .ok) := rfl

/-- Move always reports not-implemented, without change -/
theorem move_not_implemented (s : Store) : moveOp s = (s, .err .notImplemented) := rfl

/-- a nil resource or value is an error, never a crash -/
theorem nil_value_is_error (s : Store) (v : ValFacts) (hv : v.isNil = true) (e : Bool) (l b r : List Item) (i : Int) (sn : String) :
    (addOp s true false v e r sn).2 = .err .invalidInput ∧ (insertOp s false e l r v i).2 = .err .invalidInput ∧
    (replaceOp s false e l b r v).2 = .err .invalidInput := by
  -- every core begins with the nil tests (`addCore` after the name gate, hence `camelOk = true`)
  simp [addOp, insertOp, replaceOp, addCore, insertCore, replaceCore, run, hv]
theorem nil_resource_is_error (s : Store) (v : ValFacts) (e : Bool) (l b r : List Item) (i : Int) (sn : String) :
    (addOp s true true v e r sn).2 = .err .invalidInput ∧ (insertOp s true e l r v i).2 = .err .invalidInput ∧
    (replaceOp s true e l b r v).2 = .err .invalidInput ∧ (deleteOp s true e l b r).2 = .err .invalidInput := by
  -- as above: the nil-resource test is the first of every core but `addCore`, where it is the second
  simp [addOp, insertOp, replaceOp, deleteOp, addCore, insertCore, replaceCore, deleteCore, run]

/-! ### the two writes every operation is made of: `put` changes one message of the store, `setField` one field of it -/

theorem get_put_other (s : Store) (m : PMsg) (id : Nat) (h : id ≠ m.id) : (s.put m).get id = s.get id := by
  unfold Store.get Store.put
  induction s with
  | nil => rfl
  | cons x r ih =>
    rw [List.map_cons, List.find?_cons, List.find?_cons, ih]
    by_cases hx : x.id = m.id
    · have h1 : (m.id == id) = false := beq_eq_false_iff_ne.mpr (Ne.symm h)
      rw [if_pos (beq_iff_eq.mpr hx), h1, hx, h1]
    · rw [if_neg (by simpa using hx)]

theorem setField_other (m : PMsg) (fi j : Nat) (vals : List Slot) (h : j ≠ fi) :
    (setField m fi vals).fields[j]? = m.fields[j]? := by
  simp only [setField, List.getElem?_mapIdx, beq_eq_false_iff_ne.mpr h, Bool.false_eq_true, if_false, Option.map_id']

theorem setField_same (m : PMsg) (fi : Nat) (vals : List Slot) (f : PField) (h : m.fields[fi]? = some f) :
    (setField m fi vals).fields[fi]? = some { f with vals := vals } := by
  simp [setField, List.getElem?_mapIdx, h]

theorem setField_id (m : PMsg) (fi : Nat) (vals : List Slot) : (setField m fi vals).id = m.id := rfl

/-! ### what a successful operation does to the located field -/

theorem eraseAt_length (l : List Slot) (k : Nat) (h : k < l.length) : (eraseAt l k).length + 1 = l.length := by
  rw [eraseAt_eq, List.length_eraseIdx, if_pos h]; omega
theorem eraseAt_before (l : List Slot) (k j : Nat) (h : j < k) (hk : k < l.length) : (eraseAt l k)[j]? = l[j]? := by
  rw [eraseAt_eq, List.getElem?_eraseIdx_of_lt h]
theorem eraseAt_after (l : List Slot) (k j : Nat) (h : k ≤ j) (hk : k < l.length) : (eraseAt l k)[j]? = l[j + 1]? := by
  rw [eraseAt_eq, List.getElem?_eraseIdx_of_ge h]

theorem insertAt_length (l : List Slot) (k : Nat) (x : Slot) : (insertAt l k x).length = l.length + 1 := by
  simp [insertAt]; omega
theorem insertAt_at (l : List Slot) (k : Nat) (x : Slot) (hk : k ≤ l.length) : (insertAt l k x)[k]? = some x := by
  rw [insertAt_eq l k x hk, List.getElem?_insertIdx_self, if_pos hk]
theorem insertAt_before (l : List Slot) (k j : Nat) (x : Slot) (h : j < k) (hk : k ≤ l.length) : (insertAt l k x)[j]? = l[j]? := by
  rw [insertAt_eq l k x hk, List.getElem?_insertIdx_of_lt h]
theorem insertAt_after (l : List Slot) (k j : Nat) (x : Slot) (h : k ≤ j) (hk : k ≤ l.length) : (insertAt l k x)[j + 1]? = l[j]? := by
  rw [insertAt_eq l k x hk, List.getElem?_insertIdx_of_gt (by omega)]; rfl

theorem replaceAt_length (l : List Slot) (k : Nat) (x : Slot) (h : k < l.length) : (replaceAt l k x).length = l.length := by
  rw [replaceAt_eq l k x h, List.length_set]
theorem replaceAt_at (l : List Slot) (k : Nat) (x : Slot) (hk : k < l.length) : (replaceAt l k x)[k]? = some x := by
  rw [replaceAt_eq l k x hk, List.getElem?_set_self hk]
theorem replaceAt_other (l : List Slot) (k j : Nat) (x : Slot) (h : j ≠ k) (hk : k < l.length) : (replaceAt l k x)[j]? = l[j]? := by
  rw [replaceAt_eq l k x hk, List.getElem?_set_ne (Ne.symm h)]

/-- a successful delete located the target in a message of `last` (or else of `beforeLast`) and
    rewrote exactly that message: one field of it loses exactly the target's slot (or is cleared) -/
theorem delete_ok_shape (s s' : Store) (last beforeLast : List Item) (t : Item)
    (h : deleteOp s false false last beforeLast [t] = (s', .ok)) :
    ∃ coll, (coll = last ∨ coll = beforeLast) ∧ ∃ m fi k f, locate s coll t = some (m, fi, k) ∧ m.fields[fi]? = some f ∧
      s' = s.put (setField m fi (match k with | some k => eraseAt f.vals k | none => [])) := by
  have hc : ∃ coll, (coll = last ∨ coll = beforeLast) ∧ tryDelete s coll t = some s' := by
    simp only [deleteOp, deleteCore, Bool.false_eq_true, if_false] at h
    split at h
    · rename_i s1 h1
      exact ⟨last, .inl rfl, by simp only [run, Prod.mk.injEq, and_true] at h; rw [← h, h1]⟩
    · split at h
      · rename_i s2 h2
        exact ⟨beforeLast, .inr rfl, by simp only [run, Prod.mk.injEq, and_true] at h; rw [← h, h2]⟩
      · simp [run] at h
  obtain ⟨coll, hcoll, hd⟩ := hc
  refine ⟨coll, hcoll, ?_⟩
  unfold tryDelete at hd
  split at hd
  · cases hd
  · rename_i m fi k hloc
    split at hd
    · rename_i f k' hf; cases hd; exact ⟨m, fi, some k', f, hloc, hf, rfl⟩
    · rename_i f hf; cases hd; exact ⟨m, fi, none, _, hloc, hf, rfl⟩
    · cases hd

/-- what `locate` returns is a message of the store in which the field scan found the target -/
theorem locate_sound (s : Store) (coll : List Item) (t : Item) (m : PMsg) (fi : Nat) (k : Option Nat)
    (h : locate s coll t = some (m, fi, k)) : ∃ id, Item.msg id ∈ coll ∧ s.get id = some m ∧ findField m t = some (fi, k) := by
  induction coll with
  | nil => simp [locate] at h
  | cons c r ih =>
    have next := fun h => (ih h).imp fun _ h' => And.imp_left (List.mem_cons_of_mem c) h'
    cases c with
    | sys => exact next h
    | msg id =>
      simp only [locate] at h
      split at h
      · exact next h
      · rename_i m' hm
        split at h
        · rename_i fi' k' hf
          cases h
          exact ⟨id, List.mem_cons_self, hm, hf⟩
        · exact next h

/-- field `f` holds target `t` at position `k` (list index, or the single value) -/
def HoldsAt (f : PField) (k : Option Nat) (t : Nat) : Prop :=
  match k with
  | some k => f.isList = true ∧ (f.vals[k]?.map (·.unwrapped)) = some t
  | none => f.isList = false ∧ (f.vals.head?.map (·.unwrapped)) = some t

/-- the field scan only reports a position that holds the target (seen through wrappers) -/
theorem findIn_sound (fs : List PField) (i0 t fi : Nat) (k : Option Nat) (h : findIn fs i0 t = .found fi k) :
    ∃ f, fs[fi - i0]? = some f ∧ i0 ≤ fi ∧ HoldsAt f k t := by
  induction fs generalizing i0 with
  | nil => simp [findIn] at h
  | cons f r ih =>
    -- positions are counted from `i0`, hence `fi - i0`; `next`: the scan goes on with `r`, one position further
    have next : findIn r (i0 + 1) t = .found fi k → ∃ f', (f :: r)[fi - i0]? = some f' ∧ i0 ≤ fi ∧ HoldsAt f' k t := by
      intro h'
      obtain ⟨f', hf', hle, hk⟩ := ih (i0 + 1) h'
      refine ⟨f', ?_, by omega, hk⟩
      have : fi - i0 = (fi - (i0 + 1)) + 1 := by omega
      rw [this, List.getElem?_cons_succ]; exact hf'
    simp only [findIn] at h
    split at h
    · exact next h
    · split at h
      · rename_i hl
        split at h
        · rename_i k' hk'
          cases h
          refine ⟨f, by simp, by omega, ?_⟩
          obtain ⟨hlt, hp, _⟩ := List.findIdx?_eq_some_iff_getElem.mp hk'
          refine ⟨hl, ?_⟩
          rw [List.getElem?_eq_getElem hlt]
          simpa using hp
        · exact next h
      · split at h
        · rename_i hl hm
          split at h
          · rename_i ht
            cases h
            refine ⟨f, by simp, by omega, ?_⟩
            simp only [Bool.not_eq_true] at hl
            exact ⟨hl, by simpa using ht⟩
          · exact next h
        · cases h

end FP.Props.C18
