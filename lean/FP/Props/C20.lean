/-
  C20 — resource, bundle and extension wrappers are inverses for every R4 type.
  The name → oneof-field conversion hits the right field for all 146 resource types and
  all extension value types (decided over the descriptor-derived tables of FP.Gen.Schema),
  wrap/unwrap inverse, extension mutators only touch their URL.
-/
import FP.Model.Wrappers
import FP.Gen.Consts
import FP.Lemmas.Tables
namespace FP.Props.C20
open FP FP.Model FP.Gen.Schema

/-- For every member of the ContainedResource oneof, snake-casing the resource's type name
    yields exactly that member's proto field name. -/
theorem toSnake_names_contained_field :
    containedOneof.all (fun p => toSnakeCase p.1 == p.2) = true := Lemmas.Tables.oneof_is_snake

/-- Every registered resource type has a ContainedResource field (so `Wrap` never hits its panic). -/
theorem every_resource_has_field :
    resourceTypes.all (fun r => containedField r.name == some (toSnakeCase r.name) &&
      containedOneof.contains (r.name, toSnakeCase r.name)) = true := by
  rw [List.all_eq_true]
  intro r hr
  have h := Lemmas.Tables.registered_of_mem hr
  simp [Lemmas.Tables.containedField_of_registered h, Lemmas.Tables.registered_in_oneof h]

/-- …and conversely every oneof member is a registered resource type (all 146). -/
theorem every_field_is_registered :
    containedOneof.all (fun p => isValidResourceType p.1) = true ∧ containedOneof.length = resourceTypes.length :=
  have h := Lemmas.Tables.resourceTypes_eq_oneof.symm
  ⟨Lemmas.Tables.all_any_of_map_eq h, by simpa using congrArg List.length h⟩

/-- Extension value types: the (special-cased) conversion names the right ValueX field. -/
theorem extension_names_field :
    extensionValueX.all (fun p => extensionFieldName p.1 == p.2) = true := by decide +kernel

theorem wrap_unwrap (r : Res0) (h : isValidResourceType r.type = true) (hreg : (containedField r.type).isSome) :
    ∃ c, wrap r = .ok c ∧ unwrap c = r := Lemmas.Tables.wrap_registered r h

theorem wrap_never_panics_on_registered :
    resourceTypes.all (fun r => (wrap ⟨r.name, 0⟩) != .panic) = true :=
  List.all_eq_true.mpr fun r hr => by
    obtain ⟨c, hc, -⟩ := Lemmas.Tables.wrap_registered ⟨r.name, 0⟩ (Lemmas.Tables.registered_of_mem hr)
    simp [hc]

theorem bundle_unwrap_order (rs : List Res0) (fs : List String) (h : fs.length = rs.length) :
    bundleUnwrap (fs.zip rs) = rs := by
  unfold bundleUnwrap unwrap
  induction rs generalizing fs with
  | nil => simp
  | cons r rs ih =>
    cases fs with
    | nil => simp at h
    | cons f fs => simp at h; simp [ih fs h]

/-! extension mutators change only the extensions with that URL -/

theorem setByURL_others_unchanged (l : List Ext) (u : String) (vs : List Nat) :
    (setByURL l u vs).filter (fun x => x.1 != u) = l.filter (fun x => x.1 != u) := by
  unfold setByURL
  simp [List.filter_append, List.filter_filter]

theorem setByURL_sets (l : List Ext) (u : String) (vs : List Nat) :
    (setByURL l u vs).filter (fun x => x.1 == u) = vs.map (fun v => (u, v)) := by
  unfold setByURL
  have h1 : List.filter (fun a => a.fst == u && a.fst != u) l = [] := by
    apply List.filter_eq_nil_iff.mpr; intro a _; simp
  have h2 : List.filter (fun x => x.fst == u) (List.map (fun v => (u, v)) vs) = List.map (fun v => (u, v)) vs := by
    apply List.filter_eq_self.mpr; intro a ha; simp at ha; obtain ⟨v, _, rfl⟩ := ha; simp
  simp [List.filter_append, List.filter_filter, h1, h2]

theorem upsert_others_unchanged (l : List Ext) (e : Ext) :
    (upsert l e).filter (fun x => x.1 != e.1) = l.filter (fun x => x.1 != e.1) := by
  induction l with
  | nil => simp [upsert]
  | cons x xs ih =>
    unfold upsert
    by_cases h : x.1 = e.1
    · simp [h]
    · simp [h, ih]

theorem upsert_has_value (l : List Ext) (e : Ext) : e ∈ upsert l e := by
  induction l with
  | nil => simp [upsert]
  | cons x xs ih =>
    unfold upsert
    by_cases h : x.1 = e.1
    · simp [h]
    · simp [h]; right; exact ih

theorem appendInto_keeps (l es : List Ext) : (appendInto l es).take l.length = l := by
  simp [appendInto]

example : toSnakeCase "Base64Binary" = "base64_binary" := by decide +kernel
example : toSnakeCase "MedicinalProductUndesirableEffect" = "medicinal_product_undesirable_effect" := by decide +kernel
example : extensionFieldName "String" = "string_value" := by decide +kernel

open FP.Gen.Consts in
/-- THE TYPE CONSTANTS NAME THEIR OWN TYPES: every exported `resource.<Name>` constant (regenerated from
    consts.go) has the value "<Name>", that value is a registered resource type, and every registered
    resource type has its constant — so creating a resource through a constant creates that type -/
theorem every_constant_names_its_type :
    typeConsts.all (fun p => p.1 == p.2) = true ∧
    typeConsts.all (fun p => isValidResourceType p.2) = true ∧
    resourceTypes.all (fun r => typeConsts.any (fun p => p.2 == r.name)) = true :=
  have h := Lemmas.Tables.typeConsts_eq_resourceTypes
  ⟨by decide +kernel, Lemmas.Tables.all_any_of_map_eq h, Lemmas.Tables.all_any_of_map_eq h.symm⟩

end FP.Props.C20
