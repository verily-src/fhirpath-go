/-
  C03 — evaluation never mutates its inputs.
  (1) Inventories regenerated from the evaluator packages on every run (FP.Gen.Sites): every
      `append` targets a slice created in the same function, and no mutating protoreflect method
      is called.  (2) A slice-heap model shows why that suffices: appending to a slice whose
      array the caller does not own never changes a caller-owned array — and why the old `&`
      (appending to the operand) did not.
-/
import FP.Model.Heap
import FP.Lemmas.Heap
import FP.Gen.Sites
namespace FP.Props.C03
open FP.Model FP.Gen.Sites FP.Lemmas.Heap

/-- every `append(x, …)` in the evaluator packages appends to a slice that was created in the
    same function (composite literal, make, nil declaration, or an append to itself) -/
theorem append_targets_fresh : appends.all (fun s => s.prov == "fresh") = true := by decide +kernel

def mutating : List String := ["Set", "Clear", "Mutable", "NewField", "Append", "AppendMutable", "SetUnknown", "ClearOneof"]

/-- NO ELEMENT OF A CALLER'S COLLECTION IS OVERWRITTEN: the only assignments `x[i] = v` in the evaluator packages
    whose `x` is a parameter or the receiver are the three writes into per-Compile / per-call *maps* (the function
    table being built, the variable map of the evaluation being set up) — none stores into a collection that was
    handed in (an "in place" conversion or filter of the input would be such a store) -/
theorem no_store_into_an_argument :
    ((writes.filter (fun w => w.target.endsWith "[…]" && (w.prov.startsWith "param:" || w.prov == "receiver"))).map
      (fun w => (w.fn, w.target))) =
    [("Register", "t[…]"), ("AddExperimentalFuncs", "table[…]"), ("EnvVariable", "cfg.Context.ExternalConstants[…]")] := by
  decide +kernel

/-- … and every other indexed store goes into a local whose every definition creates a new backing store (`make`, a
    literal): none into a slice or map obtained from somewhere else (the result of evaluating an argument, a
    sub-slice of the input) -/
theorem indexed_stores_into_fresh_locals :
    (writes.filter (fun w => w.target.endsWith "[…]" && !(w.prov.startsWith "param:" || w.prov == "receiver"))).all
      (fun w => w.prov == "local-fresh") = true := by
  decide +kernel

/-- the evaluator packages call no mutating protoreflect method (fields are read with Get,
    never Mutable) -/
theorem eval_uses_readonly_proto_api :
    methodCalls.all (fun p => p.2.all (fun m => !mutating.contains m)) = true := by decide +kernel

/-- arrays with id < n are the caller's -/
def callerOwned (n : Nat) (a : Nat) : Prop := a < n

/-- a fresh slice is not on a caller array -/
theorem fresh_not_caller (h : Heap) (n : Nat) (hn : n ≤ h.length) : ¬ callerOwned n (freshS h).2.arr := by
  simp [freshS, callerOwned]; omega

/-- any sequence of appends starting from a fresh slice preserves all caller arrays -/
theorem appends_from_fresh_preserve (h : Heap) (n : Nat) (hn : n ≤ h.length) (xs : List Nat) (s : Slice)
    (hs : ¬ callerOwned n s.arr) :
    ∀ a, callerOwned n a →
      Heap.read (xs.foldl (fun (st : Heap × Slice) x => appendS st.1 st.2 x) (h, s)).1 a = Heap.read h a := by
  induction xs generalizing h s with
  | nil => intro a _; rfl
  | cons x xs ih =>
    intro a ha
    simp only [List.foldl_cons]
    have step := appendS_preserves_below h s x n hn hs
    rw [ih (appendS h s x).1 (Nat.le_trans hn (length_le_appendS h s x)) (appendS h s x).2 step.2 a ha]
    exact step.1 a ha

/-- …whereas appending to a caller-owned slice with spare capacity DOES write the caller's
    array (the defect repaired in `&`: `append(leftResult, "")` on an empty operand with capacity) -/
theorem append_to_caller_slice_writes :
    let h : Heap := [[7, 8, 9]]
    let operand : Slice := ⟨0, 0, 0, 3⟩          -- empty, capacity 3, on the caller's array 0
    Heap.read (appendS h operand 42).1 0 ≠ Heap.read h 0 := by decide

/-- re-slicing (tail/skip/take return sub-slices of the input) writes nothing -/
theorem reslice_reads_only (s : Slice) (a b : Nat) : (reslice s a b).arr = s.arr := rfl

example : appends.length > 20 := by decide +kernel

end FP.Props.C03
