/-
  C02 — path navigation returns exactly the elements of the resource's FHIR JSON tree.
  Step-level theorems on the model of `FieldExpression.Evaluate`, and a schema-wide theorem over
  the regenerated descriptor table FP.Gen.NavSchema: every element of every R4 message type is
  found, under its JSON name, at its own field.  The real evaluator is compared with the model
  and with google/fhir's JSON rendering on generated resources.
-/
import FP.Model.Navigate
import FP.Gen.NavSchema
import FP.Lemmas.Path
namespace FP.Props.C02
open FP FP.Model FP.Gen.NavSchema FP.Lemmas.Path FP.Lemmas.Coll

/-- an element name that lands on field `i` yields exactly the values stored under that field, in
    order, with choice wrappers replaced by the chosen value and wrapped resources by the resource -/
theorem step_yields_field_values (name snake : String) (id : Nat) (m : MsgDesc) (i : Nat) (f : FieldDesc)
    (hg : gateOk name m.dateLike = true)
    (hs : resolveSlot m.names m.isReference m.dateLike name snake = .field i)
    (hf : m.fields[i]? = some f) (hmsg : f.isMsg = true) :
    fieldStep name snake id m = .ok (f.vals.flatMap unwrapChild) := by
  simp only [fieldStep, hg, Bool.not_true, Bool.false_eq_true, ↓reduceIte, hs, hf, emit, hmsg]

/-- the value field of a primitive yields the primitive's own System value -/
theorem step_yields_primitive_value (name snake : String) (id : Nat) (m : MsgDesc) (i : Nat) (f : FieldDesc)
    (hg : gateOk name m.dateLike = true)
    (hs : resolveSlot m.names m.isReference m.dateLike name snake = .field i)
    (hf : m.fields[i]? = some f) (hmsg : f.isMsg = false) (hp : m.primOk = true) (hv : m.noValue = false) :
    fieldStep name snake id m = .ok [.prim id] := by
  simp only [fieldStep, hg, Bool.not_true, Bool.false_eq_true, ↓reduceIte, hs, hf, emit, hmsg, Bool.not_false, hv, hp]

/-- a primitive that has an id or extensions but NO VALUE yields nothing for its value — not the zero value of
    the proto — whether the value is a field of the message or the rendered text of a date / time -/
theorem valueless_primitive_has_no_value (name snake : String) (id : Nat) (m : MsgDesc) (hv : m.noValue = true)
    (hg : gateOk name m.dateLike = true) :
    (∀ i f, resolveSlot m.names m.isReference m.dateLike name snake = .field i → m.fields[i]? = some f → f.isMsg = false →
      fieldStep name snake id m = .ok []) ∧
    (resolveSlot m.names m.isReference m.dateLike name snake = .synthValue → fieldStep name snake id m = .ok []) := by
  refine ⟨fun i f hs hf hmsg => ?_, fun hs => ?_⟩
  · simp only [fieldStep, hg, Bool.not_true, Bool.false_eq_true, ↓reduceIte, hs, hf, emit, hmsg, Bool.not_false, hv]
  · simp only [fieldStep, hg, Bool.not_true, Bool.false_eq_true, ↓reduceIte, hs, hv]

/-- the marker google/fhir's parser puts on such a primitive is never yielded as an element: the extensions of the
    element are the other values of the field, in order -/
theorem marker_is_no_element (pre post : List Child) (k : Nat) :
    (pre ++ .marker k :: post).flatMap unwrapChild = pre.flatMap unwrapChild ++ post.flatMap unwrapChild := by
  simp [List.flatMap_append, unwrapChild]

/-- choice elements are reached by their base name and yield the chosen value -/
theorem choice_yields_chosen (id c : Nat) : unwrapChild (.choice id (some c)) = [.node c] := rfl
/-- contained and bundled resources are traversed transparently -/
theorem contained_transparent (id r : Nat) : unwrapChild (.contained id (some r)) = [.node r] := rfl
/-- an empty wrapper contributes no element (and no failure) -/
theorem empty_wrapper_yields_nothing (id : Nat) : unwrapChild (.contained id none) = [] := rfl

/-- a typed reference reads back as the synthesised string, exactly once -/
theorem reference_reads_back (id s : Nat) (m : MsgDesc) (hr : m.isReference = true) (hd : m.dateLike = false)
    (hn : findProto m.names "reference" = none) (hs : m.refString = some s) :
    fieldStep "reference" "reference" id m = .ok [.synthRef s] := by
  have hg : gateOk "reference" m.dateLike = true := by rw [hd]; decide
  simp [fieldStep, hg, resolveSlot, hn, hr, hs]

/-- a request lands nowhere exactly when no lookup of the chain finds a field and it is not one of
    the synthesised names -/
theorem resolve_invalid_iff (names : List (String × String)) (isRef dl : Bool) (name snake : String) :
    resolveSlot names isRef dl name snake = .invalid ↔
      (findProto names snake = none ∧ findJson names name = none ∧ findProto names (snake ++ "_value") = none ∧
       ¬ (snake == "reference" && isRef) = true ∧ ¬ (snake == "value" && dl) = true) := by
  unfold resolveSlot
  cases findProto names snake <;> cases findJson names name <;> cases findProto names (snake ++ "_value") <;>
    cases (snake == "reference" && isRef) <;> cases (snake == "value" && dl) <;> simp  -- five independent tests: all 32 outcomes

/-- a name that is not an element of the type fails with ErrInvalidField instead of yielding empty -/
theorem unknown_name_invalid_field (name snake : String) (id : Nat) (m : MsgDesc)
    (h : resolveSlot m.names m.isReference m.dateLike name snake = .invalid) :
    fieldStep name snake id m = .err "invalid-field" := by
  unfold fieldStep
  by_cases hg : gateOk name m.dateLike = true
  · simp [hg, h]
  · simp [hg]

/-- snake_case names are rejected -/
theorem snake_name_rejected (name snake : String) (id : Nat) (m : MsgDesc) (h : name.toList.contains '_' = true) :
    fieldStep name snake id m = .err "invalid-field" := by
  have hg : gateOk name m.dateLike = false := by
    unfold gateOk; rw [h]; rfl
  simp [fieldStep, hg]

/-- the proto-only fields of the date/time primitives are not elements -/
theorem hidden_date_fields_rejected (name snake : String) (id : Nat) (m : MsgDesc) (hd : m.dateLike = true)
    (h : hiddenDateField name = true) : fieldStep name snake id m = .err "invalid-field" := by
  have hg : gateOk name m.dateLike = false := by
    unfold gateOk; rw [hd, h]; simp
  simp [fieldStep, hg]

/-- same number, document order, repeated elements flattened: the step over a collection is the
    in-order concatenation of the steps over its items -/
theorem step_flattens_in_order (name snake : String) (ms : List (Nat × MsgDesc)) (outs : List (List Out))
    (h : ms.map (fun p => fieldStep name snake p.1 p.2) = outs.map .ok) :
    fieldStepAll name snake ms = .ok outs.flatten := by
  rw [fieldStepAll_eq_selectFn]; exact selectFn_ok _ _ _ h

/-- an error on any item is an error of the step (never silently skipped) -/
theorem step_error_propagates (name snake : String) (pre : List (Nat × MsgDesc)) (id : Nat) (m : MsgDesc) (post : List (Nat × MsgDesc))
    (hpre : ∀ p ∈ pre, ∃ o, fieldStep name snake p.1 p.2 = .ok o) (e : String) (he : fieldStep name snake id m = .err e) :
    fieldStepAll name snake (pre ++ (id, m) :: post) = .err e := by
  rw [fieldStepAll_eq_selectFn]; exact selectFn_err _ _ _ _ hpre e he

/-! ### schema-wide: every element of every R4 message type is reachable under its JSON name -/

def rowNames (m : NMsg) : List (String × String) := m.fields.map fun f => (f.proto, f.json)

/-- field `i` of message `m` is an element (not a oneof member, not a hidden date field) ⇒ its JSON
    name passes the gate and the lookup chain lands on field `i` itself -/
def fieldOk (m : NMsg) (f : NField) (i : Nat) : Bool :=
  f.inOneof || (m.dateLike && hiddenDateField f.json) ||
  (gateOk f.json m.dateLike && resolveSlot (rowNames m) m.isReference m.dateLike f.json f.snake == .field i)

def msgOk (m : NMsg) : Bool := m.wrapper || (m.fields.zipIdx.all fun p => fieldOk m p.1 p.2)

theorem every_element_reachable : chunks.all (fun c => c.all msgOk) = true := by
  -- the gate on the bytes of each name (`gateB`): decoding 8530 names costs more than the rest of the sweep
  delta msgOk fieldOk
  rw [Lemmas.Path.gateOk_eq_gateB]
  decide +kernel

/-- the table is not trivially satisfied: it has messages that are not wrappers and fields that are elements -/
theorem schema_nontrivial : (chunks.flatten.filter (fun m => !m.wrapper)).length ≥ 1000 ∧
    (chunks.flatten.flatMap (fun m => m.fields.filter (fun f => !f.inOneof))).length ≥ 5000 := by decide +kernel

/-- a described message whose field names are those of a schema row resolves requests as the row does -/
theorem resolves_as_schema (m : MsgDesc) (n : NMsg) (hn : m.names = rowNames n) (hr : m.isReference = n.isReference)
    (hd : m.dateLike = n.dateLike) (name snake : String) :
    resolveSlot m.names m.isReference m.dateLike name snake = resolveSlot (rowNames n) n.isReference n.dateLike name snake := by
  rw [hn, hr, hd]

example : fieldStep "deceased" "deceased" 0
    ⟨"Patient", false, false, none, false, false, [⟨"deceased", "deceased", false, true, [.choice 5 (some 6)]⟩]⟩ = .ok [.node 6] := by decide
example : fieldStep "nosuch" "nosuch" 0 ⟨"Patient", false, false, none, false, false, []⟩ = .err "invalid-field" := by decide
example : fieldStep "lethalDose50" "lethal_dose_50" 0
    ⟨"X", false, false, none, false, false, [⟨"lethal_dose50", "lethalDose50", false, true, [.plain 3]⟩]⟩ = .ok [.node 3] := by decide

/-! ### whole paths: the composition of steps -/

/-- A dotted path is the composition of its steps: evaluating `a.b` after `p` is evaluating `p`,
    then `a.b` on what `p` yielded; an error of `p` is the outcome -/
theorem path_is_composition (s t : List (Out → Res (List Out))) (c : List Out) :
    evalPath (s ++ t) c = (evalPath s c).bind (evalPath t) :=
  evalPath_append s t c

/-- DOCUMENT ORDER AND FLATTENING FOR WHOLE PATHS: over a collection made of two consecutive parts,
    a path yields what it yields on the first part followed by what it yields on the second -/
theorem path_keeps_document_order (fs : List (Out → Res (List Out))) (a b ra rb : List Out)
    (ha : evalPath fs a = .ok ra) (hb : evalPath fs b = .ok rb) : evalPath fs (a ++ b) = .ok (ra ++ rb) := by
  induction fs generalizing a b with
  | nil => cases ha; cases hb; rfl
  | cons f fs ih =>
    -- a path that succeeds has a first step that succeeds
    have first : ∀ c r, evalPath (f :: fs) c = .ok r → ∃ c', selectFn f c = .ok c' ∧ evalPath fs c' = .ok r := by
      intro c r h
      rw [evalPath, stepAll_eq_selectFn] at h
      cases hs : selectFn f c with
      | ok c' => exact ⟨c', rfl, by rwa [hs] at h⟩
      | err e => rw [hs] at h; cases h
      | panic => rw [hs] at h; cases h
    obtain ⟨a', ha1, ha2⟩ := first a ra ha
    obtain ⟨b', hb1, hb2⟩ := first b rb hb
    rw [evalPath, stepAll_eq_selectFn, selectFn_append, ha1, hb1]
    exact ih a' b' ha2 hb2

/-- the first failing step decides: a name that is not an element anywhere along the path makes the
    whole path fail with that error, whatever follows -/
theorem path_error_is_final (s t : List (Out → Res (List Out))) (c : List Out) (e : String)
    (h : evalPath s c = .err e) : evalPath (s ++ t) c = .err e := by
  rw [evalPath_append, h]; rfl

/-- the last step of a path is the collection step of FP.Model.Navigate (the one that is run against
    the real `FieldExpression.Evaluate`) applied to the elements the path before it reached -/
theorem path_last_step_is_field_step (t : Tree) (s : List (Out → Res (List Out))) (name snake : String)
    (c : List Out) (ms : List (Nat × MsgDesc)) (h : evalPath s c = .ok (ms.map fun p => Out.node p.1))
    (ht : ∀ p ∈ ms, t p.1 = some p.2) :
    evalPath (s ++ [treeStep t name snake]) c = fieldStepAll name snake ms := by
  have hs : selectFn (treeStep t name snake) (ms.map fun p => Out.node p.1) =
      selectFn (fun p => fieldStep name snake p.1 p.2) ms := by
    clear h
    induction ms with
    | nil => rfl
    | cons p ps ih =>
      rw [List.map_cons, selectFn_cons, selectFn_cons, ih fun q hq => ht q (List.mem_cons_of_mem _ hq)]
      simp only [treeStep, ht p List.mem_cons_self]
  rw [evalPath_append, h, fieldStepAll_eq_selectFn, ← hs, ← stepAll_eq_selectFn]
  show evalPath [_] _ = _
  rw [evalPath]
  cases stepAll _ _ <;> rfl

/-- nothing is fabricated: a path over the empty collection is empty -/
theorem path_on_empty (fs : List (Out → Res (List Out))) : evalPath fs [] = .ok [] := by
  induction fs with
  | nil => rfl
  | cons f fs ih => simp [evalPath, stepAll, ih]

/-- a two-step path on a small tree: `name.given` over two names, in order, flattened -/
example :
    let given (i : Nat) (vs : List Child) : MsgDesc := ⟨"HumanName", false, false, none, false, false, [⟨"given", "given", true, true, vs⟩]⟩
    let t : Tree := fun
      | 0 => some ⟨"Patient", false, false, none, false, false, [⟨"name", "name", true, true, [.plain 1, .plain 2]⟩]⟩
      | 1 => some (given 1 [.plain 10, .plain 11])
      | 2 => some (given 2 [.plain 20])
      | _ => none
    evalPath [treeStep t "name" "name", treeStep t "given" "given"] [.node 0] = .ok [.node 10, .node 11, .node 20] := by
  decide

end FP.Props.C02
