/-
  C10 — filtering, projection, subsetting and set functions obey the collection algebra.
  Theorems are generic in the item type (so they hold for FHIR elements by identity and for
  System values alike) and, for the set functions, in the item equality `eq`.
  The same laws on whole expressions of the assembled evaluator; and the regenerated table of which argument each
  implementation evaluates on what (FP.Gen.ArgEval), the shape `apply1..3` of the evaluator are written after.
-/
import FP.Model.Coll
import FP.Lemmas.Coll
import FP.Model.Eval
import FP.Gen.ArgEval
import FP.Lemmas.Eval
namespace FP.Props.C10
open FP FP.Model FP.Lemmas.Coll

variable {α : Type}

/-- a criterion that evaluates, on every item, to empty or a single item -/
def Simple (crit : α → Res (List BItem)) (c : List α) : Prop :=
  ∀ x ∈ c, ∃ out, crit x = .ok out ∧ out.length ≤ 1

/-- a single non-Boolean item counts as true, as in `ToBool` -/
def truthy (crit : α → Res (List BItem)) (x : α) : Bool :=
  match crit x with
  | .ok [.bool true] => true
  | .ok [.other] => true
  | _ => false

theorem Simple.truth {crit : α → Res (List BItem)} {c : List α} (h : Simple crit c) :
    ∀ x ∈ c, (crit x).bind Model.toBool = .ok (truthy crit x) := by
  intro x hx
  obtain ⟨out, ho, hl⟩ := h x hx
  rw [truthy, ho]
  match out, hl with
  | [], _ | [.bool true], _ | [.bool false], _ | [.other], _ => rfl
  | _ :: _ :: _, hl => simp at hl

/-- a criterion yielding more than one item is an error, never silently its first item -/
theorem where_multi_item_error (crit : α → Res (List BItem)) (x : α) (xs : List α) (a b : BItem) (r : List BItem)
    (h : crit x = .ok (a :: b :: r)) : whereFn crit (x :: xs) = .err "not-singleton" := by
  rw [whereFn_cons, h]
  cases a <;> rfl  -- `toBool` refuses two items, whatever the first is

/-- `exists(p)` equals `where(p).exists()`. -/
theorem exists_eq_where_exists (crit : α → Res (List BItem)) (c : List α) :
    existsFn crit c = (whereFn crit c).bind (fun r => .ok (!r.isEmpty)) := by
  unfold existsFn; cases whereFn crit c <;> rfl

/-- `all(p)` is true iff p is true for every item. -/
theorem all_iff_forall (crit : α → Res (List BItem)) (c : List α) (h : Simple crit c) :
    allFn crit c = .ok (c.all (truthy crit)) :=
  allFn_eq_all crit _ c h.truth

/-- `c.select(e)` is the in-order concatenation of e over the items. -/
theorem select_eq_flatMap {β : Type} (proj : α → Res (List β)) (f : α → List β) (c : List α)
    (h : ∀ x ∈ c, proj x = .ok (f x)) : selectFn proj c = .ok (c.flatMap f) := by
  rw [List.flatMap_def]
  exact selectFn_ok proj c _ (by rw [List.map_map]; exact List.map_congr_left h)

/-- `empty()` equals `count() = 0`. -/
theorem empty_iff_count_zero (c : List α) : emptyFn c = true ↔ countFn c = 0 := by
  simp [emptyFn, countFn]

/-! ### subsetting is positional -/

theorem first_eq_take1 (c : List α) : firstFn c = takeFn 1 c := by
  rw [firstFn_eq, takeFn_eq]; rfl
theorem tail_eq_skip1 (c : List α) : tailFn c = skipFn 1 c := by
  rw [tailFn_eq, skipFn_eq]; rfl

theorem last_eq_skip_pred (c : List α) : lastFn c = skipFn (countFn c - 1) c := by
  rw [lastFn_eq, skipFn_eq, countFn]
  congr 1; omega

/-- out-of-range indexes give empty, in-range ones exactly that item -/
theorem index_out_of_range (i : Int) (c : List α) (h : i < 0 ∨ i ≥ c.length) : indexFn i c = [] := by
  rw [indexFn_eq]
  split
  · rfl
  · rw [List.getElem?_eq_none (by omega)]; rfl
theorem index_in_range (i : Nat) (c : List α) (h : i < c.length) : indexFn i c = [c[i]] := by
  rw [indexFn_eq, if_neg (by omega), Int.toNat_natCast, List.getElem?_eq_getElem h]; rfl

/-! ### set functions, for any item equality -/

/-- `distinct()` never invents items: every result item is an input item -/
theorem distinct_subset (eq : α → α → Bool) (c : List α) : ∀ x ∈ distinctFn eq c, x ∈ c := by
  obtain ⟨k, hk, hsub, -⟩ := distinctAux_spec eq [] c
  rw [distinctFn, hk]
  exact fun x hx => hsub.subset hx

/-- `distinct()` keeps a representative of each class of equal items -/
theorem distinct_covers (eq : α → α → Bool) (hr : ∀ x, eq x x = true)
    (ht : ∀ a b c, eq a b = true → eq b c = true → eq a c = true) (c : List α) :
    ∀ x ∈ c, containsFn eq (distinctFn eq c) x = true := by
  obtain ⟨k, hk, -, hcov, -⟩ := distinctAux_spec eq [] c
  rw [distinctFn, hk]
  exact fun x hx => (hcov x hx).elim (fun h => containsFn_of_mem eq hr (by simp [h])) id

/-- …and only one: no kept item is equal to an earlier kept item -/
theorem distinct_pairwise (eq : α → α → Bool) (c : List α) :
    (distinctFn eq c).Pairwise (fun a b => eq a b = false) := by
  obtain ⟨k, hk, -, -, hpw⟩ := distinctAux_spec eq [] c
  rw [distinctFn, hk]
  exact hpw .nil

/-- `isDistinct()` iff `count() = distinct().count()` -/
theorem isDistinct_iff_count (eq : α → α → Bool) (c : List α) :
    isDistinctFn eq c = decide (countFn c = countFn (distinctFn eq c)) := by
  simp only [isDistinctFn, countFn]
  by_cases h : (distinctFn eq c).length = c.length
  · simp [h]
  · have : ¬ ((c.length : Int) = ((distinctFn eq c).length : Int)) := by omega
    simp [h, this]

/-- `intersect(d)` is a duplicate-free set of items of c, each equal to some item of d -/
theorem intersect_spec (eq : α → α → Bool) (c d : List α) :
    (intersectFn eq c d).Pairwise (fun a b => eq a b = false) ∧
    (∀ x ∈ intersectFn eq c d, x ∈ c ∧ containsFn eq d x = true) := by
  rw [intersectFn, intersectAux_eq]
  exact ⟨distinct_pairwise eq _, fun x hx => List.mem_filter.mp (distinct_subset eq _ x hx)⟩

/-- `exclude(d)` as the property states it: the items of c equal to no item of d, order and
    duplicates preserved.  FALSE of the implementation (known finding C10-exclude-symmetric-difference):
    the code also appends the items of d that are not in c. -/
def excludeRef (eq : α → α → Bool) (c d : List α) : List α := c.filter (fun x => !containsFn eq d x)

/-- what IS true of the implemented `exclude`: its prefix is the specified result, and it is the
    specified result exactly when every item of d occurs in c (or c is empty) -/
theorem exclude_partial (eq : α → α → Bool) (c d : List α) (hc : c ≠ []) :
    excludeFn eq c d = excludeRef eq c d ++ d.filter (fun x => !containsFn eq c x) := by
  cases c with
  | nil => exact absurd rfl hc
  | cons x xs => simp [excludeFn, excludeRef]

theorem exclude_counterexample :
    excludeFn (fun (a b : Nat) => a == b) [1, 2] [3] ≠ excludeRef (fun (a b : Nat) => a == b) [1, 2] [3] := by decide

/-- none of the functions ever yields an item that was not in its inputs (no null items) -/
theorem take_subset (n : Int) (c : List α) : ∀ x ∈ takeFn n c, x ∈ c := by
  rw [takeFn_eq]; exact fun _ => List.mem_of_mem_take
theorem skip_subset (n : Int) (c : List α) : ∀ x ∈ skipFn n c, x ∈ c := by
  rw [skipFn_eq]; exact fun _ => List.mem_of_mem_drop

example : takeFn 2147483647 [1, 2, 3] ++ skipFn 2147483647 [1, 2, 3] = [1, 2, 3] := by decide
example : takeFn (-2147483648) [1, 2, 3] = ([] : List Nat) := by decide
example : distinctFn (fun (a b : Nat) => a == b) [1, 2, 1, 3, 2] = [1, 2, 3] := by decide
example : intersectFn (fun (a b : Nat) => a == b) [1, 2, 2, 3] [2, 2, 4] = [2] := by decide

/-! ### the same laws on whole expressions (the assembled evaluator, FP.Model.Eval):
    for every criterion / argument expression, environment and input collection -/

section Expr
open FP.Model.Eval

/-- `exists(p)` equals `where(p).exists()`, errors included -/
theorem expr_exists_eq_where_exists (env : Env) (p : E) (input : List Val) :
    eval env (.fn "exists" (.argCons p .argNil)) input
      = eval env (.seq (.fn "where" (.argCons p .argNil)) (.fn "exists" .argNil)) input := by
  rw [eval_exists1, exists_eq_where_exists, eval_seq, eval_where]
  cases whereFn (crit (eval env p)) input <;> rfl

/-- `first()` = `[0]` = `take(1)` -/
theorem expr_first_index_take (env : Env) (input : List Val) :
    eval env (.fn "first" .argNil) input = eval env (.index (.lit (.int 0))) input ∧
    eval env (.fn "first" .argNil) input = eval env (.fn "take" (.argCons (.lit (.int 1)) .argNil)) input := by
  have hf : eval env (.fn "first" .argNil) input = .ok (firstFn input) := rfl
  refine ⟨by rw [hf, first_eq_index0]; rfl, ?_⟩
  rw [hf, eval_take, first_eq_take1]
  cases input <;> rfl

/-- `tail()` = `skip(1)` -/
theorem expr_tail_eq_skip1 (env : Env) (input : List Val) :
    eval env (.fn "tail" .argNil) input = eval env (.fn "skip" (.argCons (.lit (.int 1)) .argNil)) input := by
  have ht : eval env (.fn "tail" .argNil) input = .ok (tailFn input) := rfl
  rw [ht, eval_skip, tail_eq_skip1]
  cases input <;> rfl

/-- `take(n)` followed by `skip(n)` partitions the input, for every integer literal n -/
theorem expr_take_skip_partition (env : Env) (n : Int) (input : List Val) :
    ∃ a b, eval env (.fn "take" (.argCons (.lit (.int n)) .argNil)) input = .ok a ∧
           eval env (.fn "skip" (.argCons (.lit (.int n)) .argNil)) input = .ok b ∧ a ++ b = input := by
  refine ⟨takeFn n input, skipFn n input, ?_, ?_, take_skip_partition n _⟩
  · rw [eval_take]; cases input <;> rfl
  · rw [eval_skip]; cases input <;> rfl

/-- a path is evaluated step by step: the second step sees exactly what the first produced -/
theorem expr_seq (env : Env) (a b : E) (input mid : List Val) (h : eval env a input = .ok mid) :
    eval env (.seq a b) input = eval env b mid := by
  rw [eval_seq, h, Res.ok_bind]

/-- `where(p)` keeps an item exactly when p — evaluated on that item alone, `$this` being the item —
    is true, in order (for criteria that evaluate to at most one item on every input item) -/
theorem expr_where_eq_filter (env : Env) (p : E) (input : List Val)
    (h : Simple (crit (eval env p)) input) :
    eval env (.fn "where" (.argCons p .argNil)) input
      = .ok (input.filter (truthy (crit (eval env p)))) := by
  rw [eval_where]
  exact whereFn_eq_filter _ _ _ h.truth

/-- `$this` inside a criterion is the item under test -/
theorem expr_this_is_the_item (env : Env) (x : Val) : eval env .this [x] = .ok [x] := rfl

end Expr

/-! ### which argument a function implementation evaluates, and on what — regenerated from funcs/impl -/

/-- `where`, `select` and `all` evaluate their argument once per input item on the one-item collection of that
    item (so `$this` is the item under test; `exists(c)` goes through `Where`); `children` evaluates a field
    step per element; every other argument of every other function is evaluated on the function's own input.
    This is the shape `FP.Model.Eval.apply1 / apply2 / apply3` are written after (`crit a x = a [x]`,
    `(a input)` elsewhere). -/
def expectedArgEvals : List (String × String × String) :=
  [("All", "args[0]", "system.Collection{element}"), ("Children", "fe", "system.Collection{base}"),
   ("Contains", "args[0]", "input"), ("EndsWith", "args[0]", "input"), ("Exclude", "args[0]", "input"),
   ("Extension", "args[0]", "input"), ("Iif", "args[0]", "input"), ("Iif", "args[2]", "input"), ("Iif", "args[1]", "input"),
   ("IndexOf", "args[0]", "input"), ("Intersect", "args[0]", "input"), ("Join", "args[0]", "input"), ("Log", "args[0]", "input"),
   ("Matches", "args[0]", "input"), ("Power", "args[0]", "input"), ("Replace", "args[0]", "input"), ("Replace", "args[1]", "input"),
   ("ReplaceMatches", "args[0]", "input"), ("ReplaceMatches", "args[1]", "input"), ("Round", "args[0]", "input"),
   ("Select", "e", "system.Collection{item}"), ("Skip", "args[0]", "input"), ("StartsWith", "args[0]", "input"),
   ("Substring", "args[0]", "input"), ("Substring", "args[1]", "input"), ("Take", "args[0]", "input"),
   ("ToQuantity", "args[0]", "input"), ("Where", "e", "system.Collection{item}")]

theorem argument_evaluation_as_modelled : FP.Gen.ArgEval.argEvals = expectedArgEvals := by decide +kernel

end FP.Props.C10
