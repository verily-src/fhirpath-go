/-
  C12 — `is` and `as` agree with the FHIR and System type hierarchies.
  `parent`, the validity tables and the specifier constructors are translated from
  reflection/type_specifier.go, elements.go and system/types.go on every run; the reference
  hierarchy `FP.Ref.parentOf` is derived from descriptor facts (FP.Gen.Schema), not from the code.
-/
import FP.Model.Types
import FP.Lemmas.Types
import FP.Ref.Types
import FP.Model.Eval
import FP.Lemmas.Eval
namespace FP.Props.C12
open FP FP.Model FP.Ref FP.Gen.TypeParent FP.Lemmas.Types

/-- the reference answer for `parent`: a root is its own parent, as in the Go code -/
def refParentTS (n : String) : TypeSpecifier :=
  match parentOf n with | some p => ⟨"FHIR", p⟩ | none => ⟨"FHIR", n⟩

/-- The code's `parent` switch agrees with the R4 hierarchy on every FHIR type name
    (19 primitives, every registered datatype, all 146 resources, the abstract bases). -/
theorem parent_agrees : fhirTypeNames.all (fun n => parent ⟨"FHIR", n⟩ == refParentTS n) = true := by
  decide +kernel

/-- at most three ancestors -/
def depthOk (n : String) : Bool :=
  match parentOf n with
  | none => true
  | some a => match parentOf a with
    | none => true
    | some b => match parentOf b with
      | none => true
      | some c => match parentOf c with
        | none => true
        | some _ => false

theorem chains_short : fhirTypeNames.all depthOk = true := by
  rw [List.all_eq_true]
  intro n _
  unfold depthOk
  cases h : parentOf n with
  | none => rfl
  | some a =>
    -- the parent is one of eight names, whose chains are evaluated
    have ha := parentOf_mem h
    clear h
    revert a
    decide +kernel

/-- `Is` (model of the Go recursion) coincides with "is or derives from" in the reference
    hierarchy, for every pair of FHIR type names. -/
theorem is_agrees (a b : String) (ha : a ∈ fhirTypeNames) :
    is ⟨"FHIR", a⟩ ⟨"FHIR", b⟩ = derives a b := by
  refine isFuel_eq_derivesFuel (fun a ha => ?_) 8 a ha b
  rw [beq_iff_eq.mp (List.all_eq_true.mp parent_agrees a ha), refParentTS]
  cases parentOf a <;> rfl

/-- namespaces never mix: a FHIR type is no System type and vice versa -/
theorem is_cross_namespace (a b : TypeSpecifier) (h : a.ns ≠ b.ns) : is a b = false := by
  unfold is isFuel; simp [h]

/-- System types: `x is T` iff T is x's own type or `Any`. -/
theorem is_system (a b : String) :
    is ⟨"System", a⟩ ⟨"System", b⟩ = (a == b || b == "Any") := system_is a b

/-- `typeOf`: codes are `code`, nested components are BackboneElements (with modifier
    extensions) or Elements, capitalised primitive message names map to the lower-case FHIR names. -/
theorem typeOf_code (n : String) (x y : Bool) : typeOf (.msg n true x y) = ⟨"FHIR", "code"⟩ := rfl
theorem typeOf_nested (n : String) (m : Bool) :
    typeOf (.msg n false true m) = ⟨"FHIR", if m then "BackboneElement" else "Element"⟩ := by
  cases m <;> rfl
theorem typeOf_primitives :
    FP.Gen.Schema.lowerCamelTable.all (fun p =>
      (typeOf (.msg p.1 false false false)).typeName == p.2 || p.1 == "Xhtml") = true := by decide +kernel

/-- Name resolution: FHIR first, then System, case-sensitively; anything else is rejected. -/
theorem resolve_fhir_first (n : String) (h : n ∈ fhirTypeNames) :
    resolve none n = .ok ⟨"FHIR", n⟩ := by
  apply resolve_of_valid
  simp only [Bool.or_eq_true]
  -- a resource type is valid because the registry lists it; the other names are evaluated
  have rest : (primitives ++ complexNames).all (isValidFHIRPathElement toLowerCamel isValidElementType) = true ∧
      ["Element", "BackboneElement", "Resource", "DomainResource"].all (fun n =>
        isValidFHIRPathElement toLowerCamel isValidElementType n || isBaseType n) = true := by decide +kernel
  rcases List.mem_append.mp h with h | hbase
  · rcases List.mem_append.mp h with h | hres
    · exact .inl (.inl (List.all_eq_true.mp rest.1 n h))
    · exact .inl (.inr (List.any_eq_true.mpr (by simpa using hres)))
  · exact (Bool.or_eq_true _ _ ▸ List.all_eq_true.mp rest.2 n hbase).elim (.inl ∘ .inl) .inr
theorem resolve_system :
    ["Boolean", "String", "Integer", "Decimal", "Date", "DateTime", "Time", "Quantity", "Any"].all
      (fun n => (resolve none n == .ok ⟨"System", n⟩ || fhirTypeNames.contains n) && resolve (some "System") n == .ok ⟨"System", n⟩) = true
    ∧ resolve none "Quantity" = .ok ⟨"FHIR", "Quantity"⟩ := by decide +kernel
theorem resolve_case_sensitive :
    resolve none "patient" = .err "errInvalidType" ∧ resolve none "STRING" = .err "errInvalidType" ∧
    resolve none "string" = .ok ⟨"FHIR", "string"⟩ ∧ resolve none "String" = .ok ⟨"System", "String"⟩ ∧
    resolve (some "FHIR") "String" = .err "errInvalidType" ∧ resolve (some "Foo") "string" = .err "errInvalidNamespace" := by
  decide +kernel

example : derives "code" "string" = true ∧ derives "code" "Element" = true ∧ derives "Patient" "DomainResource" = true
    ∧ derives "Bundle" "DomainResource" = false ∧ derives "Timing" "BackboneElement" = true := by decide +kernel

/-- A TYPE SPECIFIER HAS ONE OR TWO PARTS: a dotted name of three or more parts (and the empty one) names
    no type — Compile rejects it, whatever the parts are -/
theorem long_specifier_rejected (ps : List String) (h : 3 ≤ ps.length ∨ ps = []) :
    resolveParts ps = .err "too many type qualifiers" := by
  rcases h with h | h
  · match ps, h with
    | _ :: _ :: _ :: _, _ => rfl
  · subst h; rfl

/-- … while a one-part name is looked up unqualified and a two-part name in its namespace -/
theorem short_specifier_resolved (ns n : String) :
    resolveParts [n] = resolve none n ∧ resolveParts [ns, n] = resolve (some ns) n := ⟨rfl, rfl⟩

/-! ### `is` / `as` on whole expressions (the assembled evaluator, FP.Model.Eval) -/

section Expr
open FP.Model.Eval

/-- `x as T` returns x itself when `x is T` and empty otherwise — for every operand expression that
    evaluates to a single item, every type specifier, environment and input -/
theorem expr_as_iff_is (env : Env) (e : E) (t : TypeSpecifier) (input : List Val) (x : Val)
    (h : eval env e input = .ok [x]) :
    eval env (.isT e t) input = .ok [.bool (itemIs x t)] ∧
    eval env (.asT e t) input = .ok (if itemIs x t then [x] else []) := by
  rw [eval_isT, eval_asT, h]; exact ⟨rfl, rfl⟩

/-- an empty operand gives empty, more than one item is an error — for `is` and `as` alike -/
theorem expr_type_op_cardinality (env : Env) (e : E) (t : TypeSpecifier) (input : List Val) :
    (eval env e input = .ok [] → eval env (.isT e t) input = .ok [] ∧ eval env (.asT e t) input = .ok []) ∧
    (∀ a b r, eval env e input = .ok (a :: b :: r) →
      eval env (.isT e t) input = .err "not-singleton" ∧ eval env (.asT e t) input = .err "not-singleton") := by
  refine ⟨fun h => ?_, fun a b r h => ?_⟩ <;> rw [eval_isT, eval_asT, h] <;> exact ⟨rfl, rfl⟩

/-- a computed value has its System type: it is that type and `System.Any`, and no FHIR type -/
theorem expr_system_value_types (v : Val) (hv : v = .bool true ∨ v = .int 7 ∨ v = .dec ⟨15, -1⟩ ∨ v = .str [97]) :
    itemIs v ⟨"System", sysName v⟩ = true ∧ itemIs v ⟨"System", "Any"⟩ = true ∧
    itemIs v ⟨"FHIR", "Element"⟩ = false ∧ itemIs v ⟨"FHIR", "string"⟩ = false ∧ itemIs v ⟨"FHIR", "integer"⟩ = false := by
  simp [itemIs_eq]

/-- Compile resolves the written specifier exactly as `resolveParts` does, and rejects what it rejects -/
theorem expr_compile_type_specifier (tbl : List FP.Gen.FuncTable.Entry) (e : Syntax.Ex) (parts : List String) (vr : Bool)
    (ce : E) (vr1 : Bool) (he : compile tbl e vr = .ok (ce, vr1)) :
    (∀ ts, resolveParts parts = .ok ts → compile tbl (.typ "is" e parts) vr = .ok (.isT ce ts, vr1) ∧
                                         compile tbl (.typ "as" e parts) vr = .ok (.asT ce ts, vr1)) ∧
    (∀ m, resolveParts parts = .err m → compile tbl (.typ "is" e parts) vr = .error) := by
  refine ⟨fun ts h => ?_, fun m h => ?_⟩ <;> simp [compile, he, h, CRes.bind]

end Expr

end FP.Props.C12
