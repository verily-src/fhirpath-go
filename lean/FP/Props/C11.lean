/-
  C11 — parsing respects FHIRPath precedence, associativity and token boundaries.
  The level table is regenerated from fhirpath.g4 on every run; the round-trip theorem holds for
  every table with the (decidable, checked) property `tableOK`, and for every expression tree over
  all its operators.
  Token gaps: white space and comments between the tokens never change what is lexed, parsed or evaluated.
  Evaluation: both renderings of a tree compile and evaluate to the same outcome, that of the tree.
  The shape of the visitor (who visits which child, itself or a clone) and of the `Evaluate` methods (which operand on
  which input) is regenerated from the source and is the one the model's `compile` / `eval` are written after.
-/
import FP.Lemmas.Printer
import FP.Lemmas.Lexer
import FP.Lemmas.Eval
import FP.Gen.Visitor
import FP.Gen.EvalShape
namespace FP.Props.C11
open FP FP.Model.Syntax FP.Gen.Grammar FP.Lemmas.Syntax FP.Lemmas.Lexer

/-- the precedence levels of the grammar file, loosest first, are the thirteen levels of the
    FHIRPath specification in the specification's order -/
theorem levels_as_specified : levels =
    [(["implies"], false), (["or", "xor"], false), (["and"], false), (["in", "contains"], false),
     (["=", "~", "!=", "!~"], false), (["<=", "<", ">", ">="], false), (["|"], false), (["is", "as"], true),
     (["+", "-", "&"], false), (["*", "/", "div", "mod"], false)] := by decide +kernel

/-- the alternatives that are not binary come first, in the order term, invocation, indexer,
    polarity: postfix binds tighter than polarity, polarity tighter than every binary operator —
    the reading the stratified model parser implements -/
theorem tight_alternatives_first :
    (alternatives.take 4).map (·.2.1) = ["term", "postfix-invocation", "postfix-index", "prefix"] ∧
    (alternatives.drop 4).all (fun a => a.2.1 == "binary" || a.2.1 == "type") = true := by decide +kernel

/-- no operator belongs to two levels, and none is a bracket, separator or calendar keyword -/
theorem table_ok : tableOK = true := by decide +kernel

/-- PRECEDENCE AND ASSOCIATIVITY: every expression tree, rendered with exactly the parentheses its
    levels and left associativity require, parses back to itself — and the parse consumes the
    whole token list -/
theorem minimal_rendering_roundtrip (t : Ex) (h : Core t) : parseProg (printAt 0 t) = some t :=
  parseProg_of_exprR (exprR_of_core table_ok h) (by have := depth_le_length h 0; omega)

/-- the same in any context: a sub-expression rendered for a context of level c, followed by
    something that cannot extend it, is parsed as that sub-expression and nothing more -/
theorem rendering_in_context (t : Ex) (h : Core t) (c f : Nat) (rest : List Tok) (hc : c ≤ nLevels + 2)
    (hf : 2 * depth t ≤ f) (hs : Stop c rest) : Pc f c (printAt c t ++ rest) = some (t, rest) :=
  (printAt_operand table_ok h c hc).parse hf (hs.ends table_ok)

/-- left associativity and precedence, concretely: a - b - c is (a - b) - c; the other association
    needs parentheses, and so does a sum under a product -/
example : printAt 0 (.bin "-" (.bin "-" (.lit (.num "1")) (.lit (.num "2"))) (.lit (.num "3"))) =
    [.num "1", .kw "-", .num "2", .kw "-", .num "3"] := by
  have h1 : levelIdx "-" false = 8 := by decide +kernel
  simp [printAt, paren, h1]
example : printAt 0 (.bin "-" (.lit (.num "1")) (.bin "-" (.lit (.num "2")) (.lit (.num "3")))) =
    [.num "1", .kw "-", .kw "(", .num "2", .kw "-", .num "3", .kw ")"] := by
  have h1 : levelIdx "-" false = 8 := by decide +kernel
  simp [printAt, paren, h1]
example : printAt 0 (.bin "*" (.bin "+" (.lit (.num "1")) (.lit (.num "2"))) (.lit (.num "3"))) =
    [.kw "(", .num "1", .kw "+", .num "2", .kw ")", .kw "*", .num "3"] := by
  have h1 : levelIdx "+" false = 8 := by decide +kernel
  have h2 : levelIdx "*" false = 9 := by decide +kernel
  simp [printAt, paren, h1, h2]
example : Core (.bin "-" (.bin "-" (.lit (.num "1")) (.lit (.num "2"))) (.pol "-" (.dot (.ext "v") (.member "name")))) := by
  refine .bin _ _ _ (by decide +kernel) (.bin _ _ _ (by decide +kernel) (.atom _ (.num _)) (.atom _ (.num _))) (.pol _ _ (Or.inr rfl) (.dot _ _ (.atom _ (.ext _)) (.member _)))

/-- trailing tokens are never accepted: `prog` requires the end of input after the expression -/
theorem trailing_rejected (ts : List Tok) (e : Ex) (h : parseProg ts = some e) :
    ∃ f, exprP f ts = some (e, []) := by
  unfold parseProg at h
  split at h
  · rename_i e' heq; cases h; exact ⟨_, heq⟩
  · cases h

/-- FULL PARENTHESISATION: every tree — operators of all levels, polarity, type operators,
    invocations, indexers and function calls with arguments, nested anywhere — rendered with every
    operator application in its own parentheses parses back to itself, consuming the whole input -/
theorem full_rendering_roundtrip (t : Ex) (h : WfE t) : parseProg (printFull t) = some t :=
  parseProg_of_exprR (((printFull_term table_ok t).1 h).expr table_ok) (by omega)

/-- every tree of the full-rendering theorem is a tree of the minimal-rendering theorem: function
    calls with arguments count as atoms / invocations because their argument lists are read back -/
theorem minimal_rendering_roundtrip_all (t : Ex) (h : WfE t) : parseProg (printAt 0 t) = some t :=
  minimal_rendering_roundtrip t ((core_of_wf table_ok t).1 h)

/-- the two renderings of a tree parse to the same tree: one compiles iff the other does, and they
    denote the same expression -/
theorem renderings_agree (t : Ex) (h : WfE t) : parseProg (printFull t) = parseProg (printAt 0 t) := by
  rw [full_rendering_roundtrip t h, minimal_rendering_roundtrip_all t h]

/-- REDUNDANT PARENTHESES are transparent: around a whole minimal rendering … -/
theorem redundant_parentheses (t : Ex) (h : Core t) : parseProg (.kw "(" :: printAt 0 t ++ [.kw ")"]) = some t := by
  apply parseProg_of_exprR ((exprR_of_core table_ok h).wrap.expr table_ok)
  have := depth_le_length h 0
  simp only [List.length_cons, List.length_append, List.length_nil]; omega

/-- … and around any sub-term, any number of times: if X is read as the term t, so is ( X ) -/
theorem parentheses_transparent (t : Ex) (X : List Tok) (n : Nat) (h : TermR t X n) :
    TermR t (.kw "(" :: X ++ [.kw ")"]) (n + 1) := (h.expr table_ok).wrap

/-- the hypotheses are satisfiable: a call with two arguments inside an operator application -/
example : WfE (.bin "+" (.dot (.ext "v") (.call "where" (.argCons (.bin "=" (.member "a") (.lit (.num "1"))) (.argCons (.lit (.kw "true")) .argNil))))
    (.pol "-" (.lit (.num "2")))) := by
  have h1 : levelIdx "+" false < nLevels := by decide +kernel
  have h2 : levelIdx "=" false < nLevels := by decide +kernel
  simp only [WfE, WfI, WfA]
  exact ⟨h1, ⟨trivial, ⟨h2, trivial, .num _⟩, .tt, trivial⟩, Or.inr trivial, .num _⟩

/-- SUFFIX OPERATORS (as ANTLR's precedence loop reads them): after `left is T` the loop goes on with
    the tighter operators, which take `left is T` as their left operand; a looser operator on the
    left is closed first.  Evaluated by the kernel on the model parser; the same sources are in the
    correspondence stream against the real parser -/
theorem type_operator_is_a_suffix :
    parse "x is T * y" = some (.bin "*" (.typ "is" (.member "x") ["T"]) (.member "y")) ∧
    parse "1 + x is T * 2" = some (.bin "*" (.typ "is" (.bin "+" (.lit (.num "1")) (.member "x")) ["T"]) (.lit (.num "2"))) ∧
    parse "x as T[0]" = some (.idx (.typ "as" (.member "x") ["T"]) (.lit (.num "0"))) ∧
    parse "a = x is T + 1" = some (.bin "=" (.member "a") (.bin "+" (.typ "is" (.member "x") ["T"]) (.lit (.num "1")))) := by
  decide +kernel


/-! ### token gaps: white space, newlines and comments

A decorated source is a list of pieces — white-space characters, block comments, line comments and
tokens with their source text (`Written`).  `SrcOK` asks that no token is followed directly by a
character that would extend it or fuse with it (`follow`: a digit after a number, a letter after a
word, `=` after `<`, `*` or `/` after `/`, …) — white space always qualifies, and so does a comment
except directly after `/` — and that every line comment is followed by a line end or the end of the
input.  Gaps may therefore be empty wherever the tokens stay apart. -/

/-- THE LEXER DROPS THE GAPS: for every decorated source, whatever the white space, newlines and
    comments between its tokens, the lexer returns exactly its tokens -/
theorem lexer_drops_gaps (ps : List Piece) (h : SrcOK ps) : lex (String.ofList (srcText ps)) = srcToks ps :=
  lex_pieces ps h

/-- GAP INSENSITIVITY: two decorations of the same token sequence have the same parse -/
theorem gaps_never_change_the_outcome (ps qs : List Piece) (hp : SrcOK ps) (hq : SrcOK qs)
    (h : srcToks ps = srcToks qs) : parse (String.ofList (srcText ps)) = parse (String.ofList (srcText qs)) := by
  rw [parse_pieces ps hp, parse_pieces qs hq, h]

/-- END TO END: every decoration of the minimal rendering of a tree — any white space, newlines and
    comments in any gap — is parsed, from its characters, to that tree -/
theorem decorated_rendering_roundtrip (t : Ex) (h : WfE t) (ps : List Piece) (hok : SrcOK ps)
    (hts : srcToks ps = printAt 0 t) : parse (String.ofList (srcText ps)) = some t := by
  rw [parse_pieces ps hok, hts, minimal_rendering_roundtrip_all t h]

/-- … and so is every decoration of its fully parenthesised rendering -/
theorem decorated_full_rendering_roundtrip (t : Ex) (h : WfE t) (ps : List Piece) (hok : SrcOK ps)
    (hts : srcToks ps = printFull t) : parse (String.ofList (srcText ps)) = some t := by
  rw [parse_pieces ps hok, hts, full_rendering_roundtrip t h]

/-- white space always separates tokens, and so does the start of a comment except after `/` -/
theorem white_space_and_comments_separate {t : Tok} {txt : List Char} (h : Written t txt) (x : Char)
    (hx : isWs x = true ∨ (x = '/' ∧ t ≠ .kw "/")) : follow t x = false := by
  rcases hx with hx | ⟨hx, ht⟩
  · exact follow_of_stop t x (by simp [isStop, hx]) (fun _ => hx)
  · subst hx; exact follow_of_stop t '/' (by decide) (fun h' => absurd h' ht)

/-- the hypotheses are satisfiable: `1 /* c */ + // d ⏎ x` with its pieces … -/
example : SrcOK [.tok (.num "1") "1".toList, .ws ' ', .block " c ".toList, .ws ' ', .tok (.kw "+") ['+'], .ws ' ',
    .line " d".toList, .ws '\n', .tok (.ident "x") "x".toList] := by
  have w : ∀ c, isWs c = true → (Piece.ws c).OK := fun _ h => h
  refine ⟨.int "1" '1' [] (by decide) (by decide) (by simp), ?_, w _ (by decide), trivial,
    (by show blockOK _ = true; decide), trivial, w _ (by decide), trivial,
    .sym1 '+' (by decide), ?_, w _ (by decide), trivial, (by show lineOK _ = true; decide), ?_, w _ (by decide), trivial,
    .ident "x" (by decide) (by decide), ?_, trivial⟩
  · intro c hc; cases hc; decide
  · intro c hc; cases hc; decide
  · intro c hc; cases hc; exact Or.inr rfl
  · intro c hc; cases hc

/-- … and `(a+1)*b` with no gap at all: adjacent tokens that cannot fuse need no separator -/
example : SrcOK [.tok (.kw "(") ['('], .tok (.ident "a") "a".toList, .tok (.kw "+") ['+'], .tok (.num "1") "1".toList,
    .tok (.kw ")") [')'], .tok (.kw "*") ['*'], .tok (.ident "b") "b".toList] := by
  refine ⟨.sym1 '(' (by decide), ?_, .ident "a" (by decide) (by decide), ?_, .sym1 '+' (by decide), ?_,
    .int "1" '1' [] (by decide) (by decide) (by simp), ?_, .sym1 ')' (by decide), ?_, .sym1 '*' (by decide), ?_,
    .ident "b" (by decide) (by decide), ?_, trivial⟩ <;>
  · intro c hc; cases hc <;> decide

/-- the side condition on `/` is needed: a comment directly after the division operator fuses with
    it into a line comment (kernel evaluation of the model lexer; the same source is in the
    correspondence stream) -/
theorem comment_after_slash_fuses : lex "4 //* c */ 2" = [.num "4"] ∧ lex "4 / /* c */ 2" = [.num "4", .kw "/", .num "2"] := by
  decide +kernel

/-! ### evaluation of the renderings (the assembled evaluator, FP.Model.Eval) -/

open FP.Model.Eval in
/-- EVALUATE IDENTICALLY: for every expression tree, the minimally and the fully parenthesised
    rendering go through Compile and Evaluate to the same outcome — same result collection, same
    evaluation error, or both rejected by Compile — for every function table, every environment
    and every input collection -/
theorem renderings_evaluate_identically (t : Ex) (h : WfE t) (tbl : List FP.Gen.FuncTable.Entry)
    (env : Env) (input : List FP.Model.Val) :
    runToks tbl (printAt 0 t) env input = runToks tbl (printFull t) env input := by
  unfold runToks
  rw [renderings_agree t h]

open FP.Model.Eval in
/-- … and the outcome is that of the tree itself: parentheses carry no meaning of their own -/
theorem rendering_evaluates_the_tree (t : Ex) (h : WfE t) (tbl : List FP.Gen.FuncTable.Entry)
    (env : Env) (input : List FP.Model.Val) :
    runToks tbl (printAt 0 t) env input = finish env input (compile tbl t false) := by
  unfold runToks
  rw [minimal_rendering_roundtrip_all t h]

open FP.Model.Eval in
/-- WHITE SPACE AND COMMENTS NEVER CHANGE THE OUTCOME, from characters to result: any decoration of
    the minimal rendering and any decoration of the full rendering of one tree — white space,
    newlines, block and line comments in the gaps — compile and evaluate to the same outcome -/
theorem decorated_renderings_evaluate_identically (t : Ex) (h : WfE t) (ps qs : List Piece)
    (hp : SrcOK ps) (hq : SrcOK qs) (hps : srcToks ps = printAt 0 t) (hqs : srcToks qs = printFull t)
    (tbl : List FP.Gen.FuncTable.Entry) (env : Env) (input : List FP.Model.Val) :
    run tbl (String.ofList (srcText ps)) env input = run tbl (String.ofList (srcText qs)) env input := by
  unfold run
  rw [decorated_rendering_roundtrip t h ps hp hps, decorated_full_rendering_roundtrip t h qs hq hqs]

open FP.Model.Eval in
/-- two decorations of one token sequence evaluate alike whether or not the sequence parses -/
theorem gaps_never_change_the_evaluation (ps qs : List Piece) (hp : SrcOK ps) (hq : SrcOK qs)
    (h : srcToks ps = srcToks qs) (tbl : List FP.Gen.FuncTable.Entry) (env : Env) (input : List FP.Model.Val) :
    run tbl (String.ofList (srcText ps)) env input = run tbl (String.ofList (srcText qs)) env input := by
  unfold run
  rw [gaps_never_change_the_outcome ps qs hp hq h]

/-! ### the visitor's shape, regenerated from parser/visitor.go -/

section VisitorShape
open FP.Gen.Visitor FP.Model.Eval

/-- who visits which child, per Visit* method, as `FP.Model.Eval.compile` is written:
    * the eight binary-operator methods and the indexer visit their LEFT operand themselves and the RIGHT
      operand with a clone (`compile t r false`, flag thrown away);
    * invocation (`a.b`), type (`a is T`), polarity, parenthesised, term, function and parameter-list
      methods visit every child themselves (the `visitedRoot` flag is threaded through, in source order);
    * only `VisitMemberInvocation` writes the flag;
    * union, membership (`in` / `contains`), `$index`, `$total`, a bare quantity / unit / precision and the
      bare external constant are rejected at once (`errNotSupported`; `.error` in `compile`). -/
def expectedShape : List (String × List String × Bool × Bool) :=
  [("VisitAdditiveExpression", ["self", "clone"], false, false), ("VisitAndExpression", ["self", "clone"], false, false),
   ("VisitBooleanLiteral", [], false, false), ("VisitDateLiteral", [], false, false), ("VisitDateTimeLiteral", [], false, false),
   ("VisitDateTimePrecision", [], false, true), ("VisitEqualityExpression", ["self", "clone"], false, false),
   ("VisitExternalConstant", [], false, true), ("VisitExternalConstantTerm", [], false, false),
   ("VisitFunction", ["self"], false, false), ("VisitFunctionInvocation", ["self"], false, false),
   ("VisitIdentifier", [], false, true), ("VisitImpliesExpression", ["self", "clone"], false, false),
   ("VisitIndexInvocation", [], false, true), ("VisitIndexerExpression", ["self", "clone"], false, false),
   ("VisitInequalityExpression", ["self", "clone"], false, false), ("VisitInvocationExpression", ["self", "self"], false, false),
   ("VisitInvocationTerm", ["self"], false, false), ("VisitLiteralTerm", ["self"], false, false),
   ("VisitMemberInvocation", [], true, false), ("VisitMembershipExpression", [], false, true),
   ("VisitMultiplicativeExpression", ["self", "clone"], false, false), ("VisitNullLiteral", [], false, false),
   ("VisitNumberLiteral", [], false, false), ("VisitOrExpression", ["self", "clone"], false, false),
   ("VisitParamList", ["self"], false, false), ("VisitParenthesizedTerm", ["self"], false, false),
   ("VisitPluralDateTimePrecision", [], false, true), ("VisitPolarityExpression", ["self"], false, false),
   ("VisitProg", ["self"], false, false), ("VisitQualifiedIdentifier", [], false, false), ("VisitQuantity", [], false, true),
   ("VisitQuantityLiteral", [], false, false), ("VisitStringLiteral", [], false, false), ("VisitTermExpression", ["self"], false, false),
   ("VisitThisInvocation", [], false, false), ("VisitTimeLiteral", [], false, false), ("VisitTotalInvocation", [], false, true),
   ("VisitTypeExpression", ["self", "self"], false, false), ("VisitTypeSpecifier", ["self"], false, false),
   ("VisitUnionExpression", [], false, true), ("VisitUnit", [], false, true)]

/-- the visitor of the current source has exactly the shape the model's `compile` is written after, and a
    clone starts with the flag cleared and the same function table, transform and mode.  A visitor that
    clones where the model threads the flag (or the reverse), writes the flag elsewhere, or carries another
    table into a clone breaks this before any program is evaluated. -/
theorem visitor_shape_as_modelled :
    methods.map (fun m => (m.name, m.visits.map (·.1), m.writesRoot, m.unsupported)) = expectedShape ∧
    (methods.all fun m => m.visits.all fun v => v.1 == "self" || v.1 == "clone") = true ∧
    cloneFields = ["Functions=v.Functions", "Transform=v.Transform", "Permissive=v.Permissive", "visitedRoot=false"] := by
  decide +kernel

/-- what the shape means in the model: the right operand of a binary operator is compiled with a cleared
    flag whatever the flag was, its own flag is thrown away (the result carries the left operand's), and it
    must compile for the whole to compile -/
theorem right_operand_compiled_with_cleared_flag (t : List FP.Gen.FuncTable.Entry) (o : String) (l r : Ex) (vr vr1 : Bool) (cl : E)
    (hl : compile t l vr = .ok (cl, vr1)) :
    (compile t r false = .error → compile t (.bin o l r) vr = .error) ∧
    (∀ e v, compile t (.bin o l r) vr = .ok (e, v) → v = vr1 ∧ ∃ cr v2, compile t r false = .ok (cr, v2)) := by
  constructor
  · intro hr; simp [compile, hl, hr, CRes.bind]
  · intro e v h
    simp only [compile, hl, CRes.bind] at h
    cases hr : compile t r false with
    | error => simp [hr] at h
    | unmodelled => simp [hr] at h
    | ok q =>
      refine ⟨?_, q.1, q.2, rfl⟩
      simp only [hr] at h
      -- the six arms `.ok (_, vr1)` (Boolean, comparison, arithmetic, `&`, `=`, `!=`) survive `simp`; `.error` does not
      repeat' split at h
      all_goals simp at h
      all_goals exact h.2.symm

end VisitorShape

/-! ### the shape of the `Evaluate` methods, regenerated from expr/expressions.go -/

section EvalShape
open FP.Model FP.Model.Eval

/-- which sub-expression each `Evaluate` method evaluates, with which context and on which collection, as
    `FP.Model.Eval.eval` is written: both operands of every binary expression on the method's own input (each
    with a clone of the context), the operand of `is` / `as` / negation and the index of an indexer on the
    input, a sequence step on the output of the step before; the remaining methods evaluate no
    sub-expression themselves (a function's arguments are handed to the implementation unevaluated). -/
def expectedEvalShape : List (String × List (String × String × String)) :=
  [("ArithmeticExpression", [("e.Left", "ctx.Clone()", "input"), ("e.Right", "ctx.Clone()", "input")]),
   ("AsExpression", [("e.Expr", "ctx", "input")]),
   ("BooleanExpression", [("e.Left", "ctx.Clone()", "input"), ("e.Right", "ctx.Clone()", "input")]),
   ("ComparisonExpression", [("e.Left", "ctx.Clone()", "input"), ("e.Right", "ctx.Clone()", "input")]),
   ("ConcatExpression", [("e.Left", "ctx.Clone()", "input"), ("e.Right", "ctx.Clone()", "input")]),
   ("EqualityExpression", [("e.Left", "ctx.Clone()", "input"), ("e.Right", "ctx.Clone()", "input")]),
   ("ExpressionSequence", [("expr", "ctx", "output")]),
   ("ExternalConstantExpression", []), ("FieldExpression", []), ("FunctionExpression", []), ("IdentityExpression", []),
   ("IndexExpression", [("e.Index", "ctx", "input")]), ("IsExpression", [("e.Expr", "ctx", "input")]),
   ("LiteralExpression", []), ("NegationExpression", [("e.Expr", "ctx", "input")]), ("TypeExpression", [])]

theorem evaluate_shape_as_modelled : FP.Gen.EvalShape.methods = expectedEvalShape := by decide +kernel

/-- what the shape means in the model: the two operands of a binary expression are evaluated on the same
    input, left first, and an error of the left operand is the result whatever the right one does; the index
    of an indexer is evaluated on the collection being indexed; a sequence feeds each step the result of the
    step before -/
theorem operands_evaluated_on_the_same_input (env : Env) (op : ArithOp) (l r : E) (input : List Val) :
    (∀ m, eval env l input = .err m → eval env (.arith op l r) input = .err m) ∧
    (∀ lv rv, eval env l input = .ok lv → eval env r input = .ok rv → eval env (.arith op l r) input = arithEv op lv rv) ∧
    (∀ iv, eval env l input = .ok iv → eval env (.index l) input = indexColl iv input) ∧
    (∀ mid, eval env l input = .ok mid → eval env (.seq l r) input = eval env r mid) := by
  refine ⟨fun m h => ?_, fun lv rv hl hr => ?_, fun iv h => ?_, fun mid h => ?_⟩
  · rw [eval_arith, h, Res.err_bind]
  · rw [eval_arith, hl, hr, Res.ok_bind, Res.ok_bind]
  · rw [eval_index, h, Res.ok_bind]
  · rw [eval_seq, h, Res.ok_bind]

end EvalShape

open FP.Model.Eval in
/-- non-vacuity and a test of the assembled pipeline on a concrete program (a test, not the claim) -/
example : run FP.Gen.FuncTable.baseTable "%a.where($this > 1).count() + 2 * 3"
    [("a", [.int 1, .int 2, .int 3])] [] = .result [.int 8] := by decide +kernel

end FP.Props.C11
