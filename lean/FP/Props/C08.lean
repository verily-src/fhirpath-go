/-
  C08 — Integer/Decimal arithmetic is exact; overflow and division by zero give empty.
  `FP.Gen.IntArith` is translated from system/primitives.go on every run; the operator
  dispatch, Decimal backend and numeric functions are the hand model `FP.Model.Arith`/`Dec`.
  `round([precision])`: an Integer is rounded exactly, no digit is invented, a bad precision is an error.
  `power()` on two Integers: the mathematical power when it fits in 32 bits, empty otherwise.
-/
import FP.Model.Arith
import FP.Lemmas.Int32
import FP.Lemmas.Arith
import FP.Lemmas.Dec
import FP.Lemmas.Eval
namespace FP.Props.C08
open FP FP.Go FP.Model FP.Lemmas FP.Gen.IntArith

/-! ### `ArithmeticExpression` on two Integers: exact, or empty on overflow — for all 2^64 operand pairs -/

theorem arith_int_add (i j : Int) (hi : inInt32 i) (hj : inInt32 j) :
    arithExpr .add (.int i) (.int j) = .ok (if inInt32 (i + j) then [.int (i + j)] else []) := by
  simp only [arithExpr, normalize, evalOp, add_spec i j hi hj, arith_checked]

theorem arith_int_sub (i j : Int) (hi : inInt32 i) (hj : inInt32 j) :
    arithExpr .sub (.int i) (.int j) = .ok (if inInt32 (i - j) then [.int (i - j)] else []) := by
  simp only [arithExpr, normalize, evalOp, sub_spec i j hi hj, arith_checked]

theorem arith_int_mul (i j : Int) (hi : inInt32 i) (hj : inInt32 j) :
    arithExpr .mul (.int i) (.int j) = .ok (if inInt32 (i * j) then [.int (i * j)] else []) := by
  simp only [arithExpr, normalize, evalOp, mul_spec i j hi hj, arith_checked]

/-- Integer `div`/`mod`: zero divisor and the one unrepresentable quotient give empty; otherwise
    the truncated quotient / matching remainder. -/
theorem arith_int_floordiv (a b : Int) (ha : inInt32 a) (hb : inInt32 b) :
    arithExpr .floorDiv (.int a) (.int b) =
      .ok (if b = 0 ∨ (a = minInt32 ∧ b = -1) then [] else [.int (a.tdiv b)]) := by
  by_cases hb0 : b = 0
  · subst hb0; simp [arithExpr, normalize, evalOp, isZeroVal, mapArithErr]
  by_cases hov : (a = minInt32 ∧ b = -1)
  · simp [arithExpr, normalize, evalOp, isZeroVal, hov, mapArithErr]
  · simp [arithExpr, normalize, evalOp, isZeroVal, hb0, hov, floorDiv_spec ha hb0 hov, Res.ofOption, Res.bind, mapArithErr]

theorem arith_int_mod (a b : Int) (ha : inInt32 a) (hb : inInt32 b) :
    arithExpr .mod (.int a) (.int b) = .ok (if b = 0 then [] else [.int (a.tmod b)]) := by
  by_cases hb0 : b = 0
  · subst hb0; simp [arithExpr, normalize, evalOp, isZeroVal, mapArithErr]
  · simp [arithExpr, normalize, evalOp, isZeroVal, hb0, mod_spec a hb hb0, Res.ofOption, Res.bind, mapArithErr]

/-- Any division operator with a zero Integer or Decimal divisor yields empty — never a
    crash, an error or a number — whatever the (numeric) dividend is. -/
theorem division_by_zero_empty (op : ArithOp) (hop : op = .div ∨ op = .floorDiv ∨ op = .mod)
    (l r : Val) (hl : (∃ i, l = .int i) ∨ (∃ d, l = .dec d))
    (hr : (r = .int 0) ∨ (∃ d, r = .dec d ∧ d.coeff = 0)) :
    arithExpr op l r = .ok [] := by
  -- in each of the four pairings `normalize` leaves the divisor a zero Integer or a Decimal of coefficient zero
  have hz : isZeroVal (normalize r (normalize l r)) = true := by
    rcases hl with ⟨i, rfl⟩ | ⟨d, rfl⟩ <;> rcases hr with rfl | ⟨e, rfl, he⟩ <;>
      simp [normalize, isZeroVal, Dec.isZero, Dec.ofInt, *]
  -- and each of the three operators tests `isZeroVal` before anything else
  rcases hop with rfl | rfl | rfl <;> simp [arithExpr, evalOp, hz, mapArithErr]

/-- Unary minus: exact, and empty for the one Integer whose negation does not fit. -/
theorem negate_int (i : Int) (hi : inInt32 i) :
    negate (.int i) = .ok (if i = minInt32 then [] else [.int (-i)]) := by
  simp only [negate, mul_spec i (-1) hi (by decide), Int.mul_neg_one]
  unfold inInt32 minInt32 maxInt32 at *
  by_cases h : i = -2147483648
  · subst h; simp
  · have : (-2147483648 ≤ -i ∧ -i ≤ 2147483647) := by omega
    simp [h, this]

theorem abs_int (i : Int) :
    mathFn .abs (.int i) = .ok (if i = minInt32 then [] else [.int i.natAbs]) := by
  by_cases h : i = minInt32
  · simp [mathFn, h]
  · by_cases hn : i < 0
    · simp only [mathFn, h, hn, if_false, if_true]; congr; omega
    · simp only [mathFn, h, hn, if_false]; congr; omega

/-! ### Decimals: `+ - *` are exact.  `num d s` is the decimal's value scaled by `10^s`. -/

theorem dec_add_exact (a b : Dec) (s : Int) (ha : 0 ≤ s + a.exp) (hb : 0 ≤ s + b.exp) :
    num (Dec.add a b) s = num a s + num b s := by
  obtain ⟨he, h1, h2⟩ := rescalePair_spec a b s ha hb
  rw [← h1, ← h2]; exact num_add _ _ he s

theorem dec_sub_exact (a b : Dec) (s : Int) (ha : 0 ≤ s + a.exp) (hb : 0 ≤ s + b.exp) :
    num (Dec.sub a b) s = num a s - num b s := by
  obtain ⟨he, h1, h2⟩ := rescalePair_spec a b s ha hb
  rw [← h1, ← h2]; exact num_sub _ _ he s

theorem dec_mul_exact (a b : Dec) (s t : Int) (ha : 0 ≤ s + a.exp) (hb : 0 ≤ t + b.exp) :
    num (Dec.mul a b) (s + t) = num a s * num b t := by
  unfold Dec.mul num
  dsimp only
  have : s + t + (a.exp + b.exp) = (s + a.exp) + (t + b.exp) := by omega
  rw [this, pow10_add _ _ ha hb]
  rw [Int.mul_assoc, Int.mul_assoc, Int.mul_left_comm b.coeff]

/-- integer operands on which the library's `QuoRem(·, 0)` runs `big.Int.QuoRem` -/
def qrA (a b : Dec) : Int := if a.exp - b.exp < 0 then a.coeff else a.coeff * Dec.pow10 (a.exp - b.exp)
def qrB (a b : Dec) : Int := if a.exp - b.exp < 0 then b.coeff * Dec.pow10 (-(a.exp - b.exp)) else b.coeff

/-- Decimal `div`/`mod`: for a non-zero divisor the library computes an *integer* quotient `q`
    and a remainder `r` with `A = B·q + r`, `|r| < |B|`, `r` carrying the dividend's sign — i.e.
    `q` is the exact quotient truncated toward zero and `r` the matching remainder
    (`A`, `B` are the two decimals brought to a common exponent). -/
theorem dec_quoRem_identity (a b : Dec) (hb : b.coeff ≠ 0) :
    ∃ q r, Dec.quoRem a b 0 = some (⟨q, 0⟩, r) ∧ qrA a b = qrB a b * q + r.coeff ∧
      r.coeff.natAbs < (qrB a b).natAbs ∧ (0 ≤ qrA a b → 0 ≤ r.coeff) ∧ (qrA a b ≤ 0 → r.coeff ≤ 0) := by
  have hB : qrB a b ≠ 0 := by
    unfold qrB; split
    · exact Int.mul_ne_zero hb (Int.ne_of_gt (pow10_pos _))
    · exact hb
  refine ⟨(qrA a b).tdiv (qrB a b), ⟨(qrA a b).tmod (qrB a b), if a.exp - b.exp < 0 then a.exp else b.exp⟩, ?_, ?_, ?_, ?_, ?_⟩
  · simp [Dec.quoRem, hb, qrA, qrB]
  · exact (Int.mul_tdiv_add_tmod _ _).symm
  · exact natAbs_tmod_lt _ hB
  · intro h; exact Int.tmod_nonneg _ h
  · intro h
    have := Int.tmod_nonneg (a := -(qrA a b)) (qrB a b) (by omega)
    rw [Int.neg_tmod] at this; dsimp only; omega

example : arithExpr .add (.int 2147483647) (.int 1) = .ok [] := by decide
example : arithExpr .floorDiv (.int (-7)) (.int 2) = .ok [.int (-3)] := by decide
example : arithExpr .mod (.int (-7)) (.int 2) = .ok [.int (-1)] := by decide
example : arithExpr .div (.int 1) (.int 0) = .ok [] := by decide

/-! ### `round([precision])` in the assembled evaluator (FP.Model.Eval) -/

section Round
open FP.Model.Eval

/-- rounding an Integer is exact: the Decimal of the same value, whatever the precision is -/
theorem round_int_exact (p i : Int) : roundVal p (.int i) = .ok [.dec ⟨i, 0⟩] := rfl

/-- a Decimal that has no digit beyond the requested precision is returned as it is — the same value and the
    same representation (nothing is padded, however large the precision is) -/
theorem round_noop (p : Int) (d : Dec) (h : -d.exp ≤ p) : roundVal p (.dec d) = .ok [.dec d] := by
  simp [roundVal, roundTo, h]

/-- rounding never invents digits: the result has at most `p` decimal places (p ≥ 0) -/
theorem round_places (p : Int) (d : Dec) (hp : 0 ≤ p) : -(roundTo p d).exp ≤ p := by
  unfold roundTo
  split
  · assumption
  · rename_i h
    unfold Dec.round
    split
    · omega
    · have hr := rescale_exp d (-p - 1)
      show -((d.rescale (-p - 1)).exp + 1) ≤ p
      omega

/-- on whole expressions: `round()` / `round(p)` of no item is no item, of several items an error; a negative
    precision is an error and never a value; the precision must be a single Integer -/
theorem expr_round_cardinality (env : Env) (a : E) :
    eval env (.fn "round" .argNil) [] = .ok [] ∧ eval env (.fn "round" (.argCons a .argNil)) [] = .ok [] ∧
    (∀ x y r, eval env (.fn "round" .argNil) (x :: y :: r) = .err "not-singleton") ∧
    (∀ x y r, eval env (.fn "round" (.argCons a .argNil)) (x :: y :: r) = .err "not-singleton") := by
  simp [eval_round0, eval_round1]

theorem expr_round_negative_precision (env : Env) (a : E) (v : Val) (p : Int) (hp : p < 0)
    (ha : eval env a [v] = .ok [.int p]) :
    eval env (.fn "round" (.argCons a .argNil)) [v] = .err "negative-precision" := by
  simp [eval_round1, ha, toInt32, hp]

/-- an empty precision argument is an error, never the default precision (cf. C07: no fabricated value) -/
theorem expr_round_empty_precision (env : Env) (a : E) (v : Val) (ha : eval env a [v] = .ok []) :
    eval env (.fn "round" (.argCons a .argNil)) [v] = .err "not-singleton" := by
  simp [eval_round1, ha, toInt32]

example : roundVal 1 (.dec ⟨125, -2⟩) = .ok [.dec ⟨13, -1⟩] := by decide +kernel
example : roundVal 1 (.dec ⟨-125, -2⟩) = .ok [.dec ⟨-13, -1⟩] := by decide +kernel
example : roundVal 0 (.dec ⟨25, -1⟩) = .ok [.dec ⟨3, 0⟩] := by decide +kernel

end Round

/-! ### `power(exponent)` on two Integers in the assembled evaluator -/

section Power
open FP.Model.Eval

/-- any base other than 0, 1, -1 raised to the 32nd power or beyond lies outside the Integer range -/
theorem big_pow_out_of_range (b : Int) (n : Nat) (hb : 2 ≤ b.natAbs) (hn : 32 ≤ n) :
    b ^ n > maxInt32 ∨ b ^ n < minInt32 := by
  have h1 : (b ^ n).natAbs = b.natAbs ^ n := Int.natAbs_pow b n
  have h2 : 2 ^ 32 ≤ b.natAbs ^ n :=
    calc 2 ^ 32 ≤ 2 ^ n := Nat.pow_le_pow_right (by decide) hn
      _ ≤ b.natAbs ^ n := Nat.pow_le_pow_left hb n
  have h3 : 2 ^ 32 ≤ (b ^ n).natAbs := by rw [h1]; exact h2
  simp only [maxInt32, minInt32]
  omega

/-- `power()` on two Integers with a non-negative exponent is EXACT OR EMPTY: the mathematical power when it is
    an Integer of the 32-bit range, empty otherwise — never a wrapped number -/
theorem power_int_exact_or_empty (b e : Int) (he : 0 ≤ e) :
    powVal b e = (if b ^ e.toNat > maxInt32 ∨ b ^ e.toNat < minInt32 then [] else [.int (b ^ e.toNat)]) := by
  -- first `powInt`: three bases that the code answers without computing the power, and the cut at 32
  have hp : powInt b e = if b ^ e.toNat > maxInt32 ∨ b ^ e.toNat < minInt32 then none else some (b ^ e.toNat) := by
    unfold powInt
    by_cases h0 : b = 0
    · subst h0
      by_cases hz : e = 0
      · subst hz; rfl
      · rw [if_pos rfl, if_neg hz, Int.zero_pow (by omega)]; rfl
    by_cases h1 : b = 1
    · subst h1; rw [if_neg h0, if_pos rfl, Int.one_pow]; rfl
    by_cases hm : b = -1
    · subst hm
      rw [if_neg h0, if_neg h1, if_pos rfl, neg_one_pow]
      by_cases h : e % 2 = 0
      · rw [if_pos h, if_pos (show e.toNat % 2 = 0 by omega)]; rfl
      · rw [if_neg h, if_neg (show ¬ e.toNat % 2 = 0 by omega)]; rfl
    rw [if_neg h0, if_neg h1, if_neg hm]
    by_cases hbig : e > 31
    · rw [if_pos hbig, if_pos (big_pow_out_of_range b e.toNat (by omega) (by omega))]
    · rw [if_neg hbig]
  rw [powVal, if_neg (show ¬ e < 0 by omega), hp]
  by_cases h : b ^ e.toNat > maxInt32 ∨ b ^ e.toNat < minInt32
  · rw [if_pos h, if_pos h]
  · rw [if_neg h, if_neg h]

/-- a negative exponent gives the Integer 0 — what the implementation does (the reciprocal is not an Integer;
    FHIRPath itself would give a Decimal); recorded here so that a change of it is seen -/
theorem power_int_negative_exponent (b e : Int) (he : e < 0) : powVal b e = [.int 0] := by
  simp [powVal, he]

example : powVal 2 31 = [] ∧ powVal 2 30 = [.int 1073741824] ∧ powVal (-2) 31 = [.int (-2147483648)] ∧
    powVal 46341 2 = [] ∧ powVal (-1) 2147483647 = [.int (-1)] ∧ powVal 3 2147483647 = [] := by decide +kernel

end Power

end FP.Props.C08
