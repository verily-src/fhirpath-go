/-
  C05 — equality and ordering operators form one consistent partial order.
  Model: FP.Model.Compare (hand model of cmp.go / per-type TryEqual, Less / Collection.TryEqual /
  EqualityExpression / ComparisonExpression), precision maps regenerated from layouts.go.
  Theorems are stated on the model the correspondence ties to the code.  The one recorded
  exclusion (known finding C05-number-quantity-promotion) is visible in the hypotheses: laws about
  `<` across operands are stated for operands of one kind (number / string / temporal kind /
  quantity of one unit), which is exactly where `Normalize` does not re-unit a number.
-/
import FP.Model.Compare
import FP.Lemmas.Compare
import FP.Lemmas.Dec
import FP.Model.LayoutPrec
import FP.Lemmas.Tables
import FP.Model.Eval
import FP.Lemmas.Eval
namespace FP.Props.C05
open FP FP.Model FP.Lemmas

/-! ### Collections: equal iff same length and EVERY corresponding pair is equal -/

/-- what one position contributes to `Collection.TryEqual` -/
def pairEq (x y : Item) : TE :=
  match x, y with
  | .complex d, .complex e => (d == e, true)
  | .prim a, .prim b =>
    let a' := normalize a b
    let b' := normalize b a'
    tryEqual a' b'
  | _, _ => (false, true)

/-- Two collections are equal iff they have the same length and every corresponding pair of
    items is equal — every pair, for collections of any length. -/
theorem coll_eq_true_iff (c d : List Item) :
    collTryEqual c d = (true, true) ↔ c.length = d.length ∧ ∀ p ∈ c.zip d, pairEq p.1 p.2 = (true, true) := by
  unfold collTryEqual
  by_cases h : c.length = d.length
  · simp only [h, bne_self_eq_false, Bool.false_eq_true, if_false, true_and]
    induction c generalizing d with
    | nil => cases d <;> simp [collPairs]
    | cons x xs ih =>
      cases d with
      | nil => simp at h
      | cons y ys =>
        -- one step of `collPairs` goes on exactly when the pair at hand is equal
        have hc : collPairs (x :: xs) (y :: ys) = if !(pairEq x y).2 then (false, false) else
            if !(pairEq x y).1 then (false, true) else collPairs xs ys := by
          cases x <;> cases y <;> simp [collPairs, pairEq]
        simp only [List.length_cons, Nat.add_right_cancel_iff] at h
        simp only [hc, List.zip_cons_cons, List.mem_cons, forall_eq_or_imp]
        rw [← ih ys h]
        generalize pairEq x y = r
        rcases r with ⟨v, hv⟩
        cases v <;> cases hv <;> simp
  · simp [h]

theorem coll_length_mismatch_false (c d : List Item) (h : c.length ≠ d.length) :
    collTryEqual c d = (false, true) := by simp [collTryEqual, h]

/-- complex elements are compared structurally at every position -/
theorem coll_complex_all (ds es : List String) (h : ds.length = es.length) :
    collTryEqual (ds.map .complex) (es.map .complex) = (true, true) ↔ ds = es := by
  unfold collTryEqual
  simp only [List.length_map, h, bne_self_eq_false, Bool.false_eq_true, if_false]
  induction ds generalizing es with
  | nil => cases es <;> simp_all [collPairs]
  | cons d ds ih =>
    cases es with
    | nil => simp at h
    | cons e es =>
      simp at h
      by_cases hde : d = e
      · simp [collPairs, hde, ih es h]
      · simp [collPairs, hde]

/-! ### `=` / `!=` -/

theorem eq_empty_operand (n : Bool) (l r : List Item) (h : l = [] ∨ r = []) : eqExpr n l r = [] := by
  rcases h with h | h <;> subst h <;> simp [eqExpr]

/-! ### `<  <=  >  >=` on single items -/

theorem cmp_empty_operand (op : CmpOp) (l r : List (Option Val)) (h : l = [] ∨ r = []) :
    cmpExpr op l r = .ok [] := by
  rcases h with h | h <;> subst h <;> simp [cmpExpr, cmpCore]

/-! ### Temporal values: the comparison is a consistent strict partial order -/

/-- never both `a < b` and `b < a` -/
theorem tmp_lt_asymm (k : TKind) (a b : Tmp) : tmpLess k a b = .ok true → tmpLess k b a ≠ .ok true := by
  unfold tmpLess
  by_cases hl : instPath a b = true
  · simp only [hl, instPath_symm b a, if_true]
    intro h h2
    simp only [Except.ok.injEq] at h h2
    rw [lexLt_asymm _ _ h] at h2; exact Bool.false_ne_true h2
  · simp only [hl, instPath_symm b a, Bool.false_eq_true, if_false]
    intro h
    rw [slowLess_true_iff] at h
    rw [ne_eq, slowLess_true_iff, Nat.min_comm (prec k b) (prec k a)]
    exact ltLoopF_asymm k _ _ 0 _ h

/-- `a < b` excludes `a = b` -/
theorem tmp_lt_excludes_eq (k : TKind) (a b : Tmp) : tmpLess k a b = .ok true → tmpTryEqual k a b ≠ (true, true) := by
  unfold tmpLess tmpTryEqual
  by_cases hl : instPath a b = true
  · simp only [hl, if_true]
    intro h e
    simp only [Except.ok.injEq] at h
    simp only [Prod.mk.injEq, beq_iff_eq, and_true] at e
    exact lexLt_ne _ _ h e
  · simp only [hl, Bool.false_eq_true, if_false]
    intro h e
    rw [slowLess_true_iff] at h
    rw [slowEq_true_iff] at e
    rcases e with e | ⟨e, _⟩
    · exact ltLoopF_excludes_eq k _ _ 0 _ h e
    · rw [(ltLoopF_none_iff k _ _ 0 _).mpr e] at h; cases h

/-- "no value" is symmetric: `a < b` is empty (mismatched precision) iff `b < a` is -/
theorem tmp_lt_error_symm (k : TKind) (a b : Tmp) (e : String) :
    tmpLess k a b = .error e ↔ tmpLess k b a = .error e := by
  unfold tmpLess
  by_cases hl : instPath a b = true
  · simp [hl, instPath_symm b a]
  · simp only [hl, instPath_symm b a, Bool.false_eq_true, if_false]
    exact slowLess_error_symm k a b e

/-- `<` is transitive on the component-wise path, across any mix of precisions -/
theorem tmp_lt_trans_components (k : TKind) (a b c : Tmp)
    (hab : instPath a b = false) (hbc : instPath b c = false) (hac : instPath a c = false) :
    tmpLess k a b = .ok true → tmpLess k b c = .ok true → tmpLess k a c = .ok true := by
  unfold tmpLess
  simp only [hab, hbc, hac, if_false, Bool.false_eq_true]
  rw [slowLess_true_iff, slowLess_true_iff, slowLess_true_iff]
  exact ltLoopF_trans k _ _ _ 0 _ _ _ (by omega)

/-- HOUR PRECISION WITH AN OFFSET: two values of that one layout are compared component-wise after
    offset normalisation, like values of different layouts — `T10+00:30`, `T09Z` and `T09` are then
    pairwise equal, where comparing the instants made the first two differ although each equals
    the third -/
theorem hour_offset_layout_compares_components (k : TKind) (a b : Tmp) (h : a.layout = hourOffsetLayout) :
    tmpTryEqual k a b = slowEq k a b ∧ tmpLess k a b = slowLess k a b := by
  simp [tmpTryEqual, tmpLess, instPath, h]

/-- same layout: instants are compared, a strict order -/
theorem tmp_lt_trans_same_layout (k : TKind) (a b c : Tmp) (hab : instPath a b = true) (hbc : instPath b c = true) :
    tmpLess k a b = .ok true → tmpLess k b c = .ok true → tmpLess k a c = .ok true := by
  unfold tmpLess
  simp only [hab, hbc, instPath_trans hab hbc, if_true, Except.ok.injEq]
  exact lexLt_trans _ _ _

/-- temporal `=` is symmetric (value and has-value) -/
theorem tmp_eq_symm (k : TKind) (a b : Tmp) : tmpTryEqual k a b = tmpTryEqual k b a := by
  unfold tmpTryEqual
  rw [instPath_symm b a, BEq.comm (a := b.inst), slowEq_symm k b a]

/-! ### Numbers: Integer and Decimal compare by exact value -/

/-- decimal `<` is a strict order on exact values: irreflexive, asymmetric, transitive;
    exactly one of `<`, `=`, `>` holds -/
theorem dec_lt_trans (a b c : Dec) : Dec.lt a b = true → Dec.lt b c = true → Dec.lt a c = true := by
  obtain ⟨s, ha, hb, hc⟩ : ∃ s : Int, 0 ≤ s + a.exp ∧ 0 ≤ s + b.exp ∧ 0 ≤ s + c.exp :=
    ⟨a.exp.natAbs + b.exp.natAbs + c.exp.natAbs, by omega⟩
  rw [lt_eq_decide a b s ha hb, lt_eq_decide b c s hb hc, lt_eq_decide a c s ha hc]
  simp only [decide_eq_true_eq]
  omega

theorem dec_trichotomy (a b : Dec) :
    (Dec.lt a b = true ∧ Dec.eq a b = false ∧ Dec.lt b a = false) ∨
    (Dec.lt a b = false ∧ Dec.eq a b = true ∧ Dec.lt b a = false) ∨
    (Dec.lt a b = false ∧ Dec.eq a b = false ∧ Dec.lt b a = true) := by
  obtain ⟨s, ha, hb⟩ : ∃ s : Int, 0 ≤ s + a.exp ∧ 0 ≤ s + b.exp := ⟨a.exp.natAbs + b.exp.natAbs, by omega⟩
  rw [lt_eq_decide a b s ha hb, lt_eq_decide b a s hb ha, eq_eq_decide a b s ha hb]
  simp only [decide_eq_true_eq, decide_eq_false_iff_not]
  omega

theorem dec_eq_symm (a b : Dec) : Dec.eq a b = Dec.eq b a := by
  obtain ⟨s, ha, hb⟩ : ∃ s : Int, 0 ≤ s + a.exp ∧ 0 ≤ s + b.exp := ⟨a.exp.natAbs + b.exp.natAbs, by omega⟩
  rw [eq_eq_decide a b s ha hb, eq_eq_decide b a s hb ha]
  exact decide_eq_decide.mpr ⟨Eq.symm, Eq.symm⟩

/-- Integers promoted to Decimals compare by value: `1 = 1.0 = 1.00` -/
theorem int_dec_eq (i : Int) (d : Dec) (hd : d.exp ≤ 0) :
    tryEqual (.int i) (.dec d) = (decide (i * Dec.pow10 (-d.exp) = d.coeff), true) := by
  simp only [tryEqual, normalize, valTryEqual]
  rw [eq_eq_decide (Dec.ofInt i) d (-d.exp) (by simp [Dec.ofInt]; omega) (by omega), num_neg_exp]
  simp [num, Dec.ofInt]

example : collTryEqual [.complex "A", .complex "B"] [.complex "A", .complex "C"] = (false, true) := by decide
example : eqExpr false [.prim (.int 1)] [.prim (.dec ⟨100, -2⟩)] = [true] := by decide
example : cmpExpr .lt [some (.int 1)] [some (.dec ⟨15, -1⟩)] = .ok [true] := by decide

open FP.Gen.Layouts in
/-- THE PRECISION TABLES ARE THE LAYOUTS' OWN: every entry of the regenerated `dateMap`, `dateTimeMap` and `timeMap`
    — which decide when two values have "the same precision" and when a comparison is empty — gives its layout the
    precision the layout's text has, with or without an offset.  (The comparison model reads these tables, so a wrong
    entry would move model and implementation together; this is what notices it.) -/
theorem precision_tables_are_the_layouts :
    dateMap.all (fun p => p.2 == Text.impliedPrecision (Text.goLayout p.1.toList)) = true ∧
    dateTimeMap.all (fun p => p.2 == Text.impliedPrecision (Text.goLayout p.1.toList)) = true ∧
    timeMap.all (fun p => p.2 + 3 == Text.impliedPrecision (Text.goLayout p.1.toList)) = true := Tables.layout_precisions

/-! ### the operators on whole expressions (the assembled evaluator, FP.Model.Eval) -/

section Expr
open FP.Model.Eval

/-- the Boolean items of a result negated (other items cannot occur in the result of a comparison) -/
def notVals (c : List Val) : List Val := c.map fun v => match v with | .bool b => .bool (!b) | v => v

/-- whatever the operand expressions are (paths, arithmetic, calls, literals of any type — temporal
    and quantity literals included), `l != r` is the negation of `l = r`: same emptiness, same errors -/
theorem expr_ne_is_negation (env : Env) (l r : E) (input : List Val) :
    eval env (.eq true l r) input = mapRes notVals (eval env (.eq false l r) input) := by
  rw [eval_eq, eval_eq]
  rcases eval env l input with lv | e | _
  · rcases eval env r input with rv | e | _
    · show Res.ok (bools (eqExpr true _ _)) = Res.ok (notVals (bools (eqExpr false _ _)))
      rw [ne_is_negation]
      simp [notVals, bools, List.map_map, Function.comp_def]
    all_goals rfl   -- an operand that is an error is the same error on both sides
  all_goals rfl

/-- `l <= r` is the negation of `l > r` and `l >= r` of `l < r`, on whole expressions -/
theorem expr_le_is_not_gt (env : Env) (l r : E) (input : List Val) :
    eval env (.cmp .le l r) input = mapRes notVals (eval env (.cmp .gt l r) input) ∧
    eval env (.cmp .ge l r) input = mapRes notVals (eval env (.cmp .lt l r) input) := by
  rw [eval_cmp, eval_cmp, eval_cmp, eval_cmp]
  rcases eval env l input with lv | e | _
  · rcases eval env r input with rv | e | _
    · simp only [Res.ok_bind]
      rw [cmpExpr_not .le .gt (fun _ _ => rfl), cmpExpr_not .ge .lt (fun _ _ => rfl)]
      -- the Booleans are negated before or after they are made values: the same, whatever `cmpExpr` gave
      constructor
      · cases cmpExpr .gt _ _ <;> simp [notVals, bools, List.map_map, Function.comp_def]
      · cases cmpExpr .lt _ _ <;> simp [notVals, bools, List.map_map, Function.comp_def]
    all_goals exact ⟨rfl, rfl⟩   -- an operand that is an error is the same error on both sides
  all_goals exact ⟨rfl, rfl⟩

/-- temporal literals through the whole pipeline, by kernel evaluation of the source texts: offsets are
    normalised before instants are compared, a precision mismatch is empty, hour-precision values with an
    offset are compared after normalisation -/
example : run FP.Gen.FuncTable.baseTable "@2020-01-01T10:00:00+05:30 < @2020-01-01T05:00:00Z" [] [] = .result [.bool true] ∧
    run FP.Gen.FuncTable.baseTable "@2020-01 < @2020-01-15" [] [] = .result [] ∧
    run FP.Gen.FuncTable.baseTable "@2020-01-01T10+00:30 = @2020-01-01T09Z" [] [] = .result [.bool true] ∧
    run FP.Gen.FuncTable.baseTable "@T10:30 != @T10:30:00" [] [] = .result [] := by decide +kernel

end Expr

end FP.Props.C05
