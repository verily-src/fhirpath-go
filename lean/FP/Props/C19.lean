/-
  C19 — reference and identity parsing and formatting are mutual inverses.
  Model: FP.Model.Refs (hand model of LiteralInfoFromURI / URIString / reference.Is /
  canonical.IdentityFromReference), resource type names from the descriptor-derived table.
-/
import FP.Model.Refs
import FP.Lemmas.Refs
import FP.Lemmas.List
namespace FP.Props.C19
open FP FP.Model FP.Lemmas FP.Lemmas.Lists

/-- what `resource.Identity` holds: a registered type, an id, an optional version id -/
def WfIdent (x : Ident) : Prop := isType x.type = true ∧ isID x.id = true ∧ (x.vid = [] ∨ isID x.vid = true)

/-- a service base as `WithServiceBaseURL` accepts it: valid with a trailing slash added, not ending in one -/
def WfBase (b : S) : Prop := isBaseWithSlash (b ++ ['/']) = true ∧ b.getLast? ≠ some '/'

theorem restParse_abs (b : S) (x : Ident) (hb : WfBase b) (h : WfIdent x) :
    restParse (b ++ ['/'] ++ identString x) = some { ident := some x, base := b } :=
  restParse_pfx (some b) (fun _ e => Option.some.inj e ▸ hb) x.type x.id x.vid h.1 h.2.1 h.2.2

/-- Formatting an identity and parsing it back returns the same components — for every resource
    type, id and version. -/
theorem parse_format_identity (x : Ident) (h : WfIdent x) :
    literalInfoFromURI (identString x) = .ok { ident := some x } := by
  have hc := identString_noHashBar x.type x.id x.vid h.1 h.2.1 h.2.2
  have hr : restParse (identString x) = some { ident := some x } :=
    restParse_pfx none (by simp) x.type x.id x.vid h.1 h.2.1 h.2.2
  unfold literalInfoFromURI
  split
  · rename_i heq
    obtain ⟨t, i, v⟩ := x
    unfold identString at heq; split at heq <;> simp at heq
  · rename_i f heq
    rw [heq] at hc; simp at hc
  · simp only [hc.1, hc.2, Bool.or_self, Bool.false_eq_true, if_false, hr]

/-- …and formatting the parsed information returns the input string (canonical form) -/
theorem format_parse_identity (x : Ident) : uriString { ident := some x } = identString x := by
  simp [uriString]

/-- a fragment reference round-trips -/
theorem parse_format_fragment (f : S) (h : f = [] ∨ isID f = true) :
    literalInfoFromURI (uriString { fragment := some f }) = .ok { fragment := some f } := by
  simp only [uriString, literalInfoFromURI]
  rcases h with h | h
  · subst h; simp
  · simp [h]

/-- non-REST URIs (URNs, …) are kept verbatim: formatting returns the input -/
theorem nonrest_format (u : S) : uriString { nonRest := some u } = u := by simp [uriString]

/-- rejected strings produce an error (or are outside the modelled alphabet), never a crash:
    the model of the parser is total, including on the empty string -/
theorem empty_rejected : literalInfoFromURI [] = .err := rfl

/-! ### reference identity comparison is an equivalence -/

/-- coherence of the abstraction: structurally equal references have equal parts, and a reference
    without `reference` has no identity -/
def Coherent (rs : List RefA) : Prop :=
  (∀ a ∈ rs, ∀ b ∈ rs, a.whole = b.whole → a = b) ∧ (∀ a ∈ rs, a.hasRef = false → a.identity = none)

theorem refIs_refl (a : RefA) : refIs a a = true := by simp [refIs]

theorem refIs_symm (a b : RefA) : refIs a b = refIs b a := by
  unfold refIs
  rw [BEq.comm (a := a.whole), bne_comm (a := a.identifier), Bool.or_comm a.hasRef, identEq_comm]

theorem refIs_trans (rs : List RefA) (hc : Coherent rs) (a b c : RefA) (ha : a ∈ rs) (hb : b ∈ rs) (hcm : c ∈ rs) :
    refIs a b = true → refIs b c = true → refIs a c = true := by
  intro h1 h2
  by_cases hab : a.whole = b.whole
  · cases hc.1 a ha b hb hab; exact h2
  by_cases hbc : b.whole = c.whole
  · cases hc.1 b hb c hcm hbc; exact h1
  by_cases hac : a.whole = c.whole
  · rw [refIs, if_pos (by simpa using hac)]
  rw [refIs_of_ne hab, Bool.and_eq_true, beq_iff_eq] at h1
  rw [refIs_of_ne hbc, Bool.and_eq_true, beq_iff_eq] at h2
  rw [refIs_of_ne hac, Bool.and_eq_true, beq_iff_eq]
  refine ⟨h1.1.trans h2.1, ?_⟩
  cases hrb : b.hasRef with
  | true =>
    -- `b` has a reference: both comparisons were of identities, and `identEq` is transitive
    simp only [hrb, Bool.or_true, Bool.true_or, if_true] at h1 h2
    rw [identEq_trans h1.2 h2.2]; simp
  | false =>
    -- `b` has none, hence no identity: `a` and `c` can have passed only without a reference themselves
    have hn := hc.2 b hb hrb
    simp only [hrb, hn, identEq_none, Bool.or_false, Bool.false_or] at h1 h2
    have hra : a.hasRef = false := by cases h : a.hasRef <;> simp [h] at h1 ⊢
    have hrc : c.hasRef = false := by cases h : c.hasRef <;> simp [h] at h2 ⊢
    simp [hra, hrc]

/-! ### canonical URLs split and reassemble -/

def WfCanon (c : Canon) : Prop :=
  c.url ≠ [] ∧ (∀ ch ∈ c.url, ch ≠ '|' ∧ ch ≠ '#') ∧
  (∀ ch ∈ c.version, isCanonChar ch = true) ∧ (∀ ch ∈ c.fragment, isCanonChar ch = true) ∧ c.fragment.length ≤ 64

theorem canonChar_not_sep (ch : Char) (h : isCanonChar ch = true) : ch ≠ '#' ∧ ch ≠ '|' := by
  constructor <;> (intro e; subst e; simp [isCanonChar] at h)

/-- well-formed canonical URLs split into url|version#fragment and reassemble unchanged -/
theorem canonical_split_reassemble (c : Canon) (h : WfCanon c) : canonParse (canonFormat c) = some c := by
  obtain ⟨url, ver, frag⟩ := c
  obtain ⟨hu, huc, hv, hf, hfl⟩ := h
  simp only at hu huc hv hf hfl
  have pu : ∀ a ∈ url, (a != '|' && a != '#') = true := fun a ha => by simp [huc a ha]
  have hue : url.isEmpty = false := by cases url <;> simp_all
  have sf : (frag.takeWhile isCanonChar).take 64 = frag := by
    rw [takeWhile_all _ _ hf, List.take_of_length_le hfl]
  unfold canonParse canonFormat
  -- each part is a run of its character class; what follows it is empty or starts with a separator
  by_cases hve : ver = []
  · subst hve
    cases frag with
    | nil => simp [takeWhile_all _ _ pu, dropWhile_all _ _ pu, hue]
    | cons f fs =>
      have hx : ∀ c, ('#' :: f :: fs).head? = some c → (c != '|' && c != '#') = false := by simp
      simp [takeWhile_stop _ url _ pu hx, dropWhile_stop _ url _ pu hx, hue, sf]
  · have hvne : ver.isEmpty = false := by cases ver <;> simp_all
    have hx : ∀ (tl : S) c, ('|' :: tl).head? = some c → (c != '|' && c != '#') = false := by simp
    cases frag with
    | nil =>
      simp [hvne, takeWhile_stop _ url _ pu (hx _), dropWhile_stop _ url _ pu (hx _), hue, takeWhile_all _ _ hv,
        dropWhile_all _ _ hv]
    | cons f fs =>
      have hy : ∀ c, ('#' :: f :: fs).head? = some c → isCanonChar c = false := by simp; decide
      simp [hvne, takeWhile_stop _ url _ pu (hx _), dropWhile_stop _ url _ pu (hx _), hue,
        takeWhile_stop _ ver _ hv hy, dropWhile_stop _ ver _ hv hy, sf]

example : literalInfoFromURI "Patient/1/_history/2".toList = .ok { ident := some ⟨"Patient".toList, "1".toList, "2".toList⟩ } := by decide +kernel
example : literalInfoFromURI "http://example.org/fhir/Patient/1".toList =
    .ok { ident := some ⟨"Patient".toList, "1".toList, []⟩, base := "http://example.org/fhir".toList } := by decide +kernel
example : literalInfoFromURI "urn:uuid:53fefa32".toList = .ok { nonRest := some "urn:uuid:53fefa32".toList } := by decide +kernel
example : WfBase "https://a.b:8080/x/y".toList := by unfold WfBase; decide +kernel

end FP.Props.C19
