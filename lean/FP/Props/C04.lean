/-
  C04 — compiled expressions are immutable, deterministic and goroutine-safe.
  (a) Compile isolation for every history of Compile calls, given that `funcs.Clone` copies
      (a fact re-read from table.go on every run);
  (b) the evaluator packages write only to locals, to the per-call config/context and to the
      per-Compile table — never to a package variable (inventory regenerated on every run);
  (c) a generic theorem: threads that write only locations they own and read only shared or own
      locations read, under EVERY interleaving, exactly what they read when run alone;
  (d) the wall clock is read in exactly one place (InitializeContext);
  (e) in the assembled evaluator `now()` / `today()` / `timeOfDay()` yield that one reading wherever they stand.
  The race detector, goroutine and TZ runs of the harness VALIDATE the modelling assumptions.
-/
import FP.Model.Isolation
import FP.Lemmas.Isolation
import FP.Lemmas.List
import FP.Gen.Globals
import FP.Model.Eval
import FP.Lemmas.Eval
namespace FP.Props.C04
open FP.Model FP.Gen.Sites FP.Lemmas.Isolation FP.Lemmas.Lists

/-! ### (a) Compile calls are isolated -/

theorem clone_copies : cloneCopies = true := by decide

/-- the base table is the same after any history of Compile calls -/
theorem base_table_unchanged (exp : Names) (w : World) (hist : List (List CompileOpt)) :
    (history true exp w hist).1 = w := by
  induction hist generalizing w with
  | nil => rfl
  | cons o os ih => simp [history, compileCallW, ih]

/-- what the k-th Compile sees depends only on the base table and ITS OWN options -/
theorem compile_sees_only_own_options (exp : Names) (w : World) (hist : List (List CompileOpt)) :
    (history true exp w hist).2 = hist.map (fun opts => applyCompileOpts exp w.base opts) := by
  induction hist generalizing w with
  | nil => rfl
  | cons o os ih => simp [history, compileCallW, ih]

/-- a built-in (or already registered) name cannot be replaced: the option fails and the table is unchanged -/
theorem existing_name_not_replaceable (exp : Names) (t : Names) (n : String) (good : Bool) (h : t.contains n = true) :
    applyCompileOpt exp t (.addFunction n good) = (t, true) := by
  simp only [applyCompileOpt, h, if_true]

/-- no option ever removes or renames an entry: every name of the table stays, in place -/
theorem options_only_append (exp : Names) (t : Names) (opts : List CompileOpt) :
    ∃ extra, (applyCompileOpts exp t opts).1 = t ++ extra :=
  (applyCompileOpts_extends exp t opts).imp fun _ h => h.1

/-- a function registered in one Compile is invisible to every other Compile -/
theorem registered_function_is_local (exp : Names) (w : World) (n : String) (hfresh : w.base.contains n = false)
    (hexp : exp.contains n = false) (other : List CompileOpt) (hno : ∀ g, CompileOpt.addFunction n g ∉ other) :
    let h := history true exp w [[.addFunction n true], other]
    (h.2.getD 0 ([], false)).1.contains n = true ∧ (h.2.getD 1 ([], false)).1.contains n = false := by
  simp only [history, compileCallW, if_true]
  constructor
  · simp only [applyCompileOpts, applyCompileOpt, hfresh, Bool.false_eq_true, if_false, if_true, List.getD_cons_zero]
    simp
  · simp only [List.getD_cons_succ, List.getD_cons_zero]
    obtain ⟨e, he, hsrc⟩ := applyCompileOpts_extends exp w.base other
    rw [he, List.contains_eq_mem, decide_eq_false_iff_not, List.mem_append]
    have hb : n ∉ w.base := by simpa using hfresh
    have hx : n ∉ exp := by simpa using hexp
    exact fun h => h.elim hb fun h => (hsrc n h).elim (hno true) hx

/-- were `Clone` to hand out the shared table (the `TODO: Optimize`), a registration would leak
    into later Compile calls -/
theorem shared_table_would_leak :
    let h := history false [] ⟨["where"]⟩ [[.addFunction "f" true], []]
    (h.2.getD 1 ([], false)).1 = ["where", "f"] ∧ h.1 = ⟨["where", "f"]⟩ := by decide

/-! ### (b) no write to process-wide state in the evaluator packages -/

theorem no_package_variable_writes :
    writes.all (fun w => w.prov == "local" || w.prov == "local-fresh" || w.prov == "receiver" || w.prov.startsWith "param:") = true := by decide +kernel

open FP.Gen.Globals in
/-- NO PROCESS-WIDE STATE IS WRITTEN AFTER START-UP — in the whole module, not only in the evaluator packages:
    every assignment, `++`/`--`, `delete`/`clear` and state-changing method call (Store, Delete, Lock, Do, …)
    whose target is a package-level variable, and every assignment to a variable of another package, sits in an
    `init` function or in the two test-support packages (`fhirtest`, `stablerand`).  A memo table, a cache, a
    counter or a tuned third-party global added anywhere shows up here before anything is evaluated. -/
theorem no_process_state_written_after_init :
    globalWrites.all (fun w => w.fn == "init" || w.pkg == "internal/fhirtest" || w.pkg == "internal/stablerand") = true := by
  decide +kernel

open FP.Gen.Globals in
/-- … and the package-level variables that could hold such state (everything that is not an error value, a
    compiled regular expression or an alias of one) are exactly the audited ones: look-up tables written as
    literals, the registries filled by `init`, the generated parser's static data -/
theorem package_variables_as_audited :
    ((pkgVars.filter (fun v => !(v.kind == "error-value" || v.kind == "regexp" || v.kind.startsWith "alias "))).map
      (fun v => (v.pkg, v.name))) =
    [("fhirpath/fhirpathtest", "Empty"), ("fhirpath/fhirpathtest", "True"), ("fhirpath/fhirpathtest", "False"),
     ("fhirpath/internal/expr", "nonEvaluableFields"),
     ("fhirpath/internal/funcs", "notImplemented"), ("fhirpath/internal/funcs", "baseTable"), ("fhirpath/internal/funcs", "experimentalTable"),
     ("fhirpath/internal/grammar", "FhirpathLexerLexerStaticData"), ("fhirpath/internal/grammar", "FhirpathParserStaticData"),
     ("fhirpath/system", "dateMap"), ("fhirpath/system", "timeMap"), ("fhirpath/system", "dateTimeMap"), ("fhirpath/system", "escapes"),
     ("internal/element", "leafElementsByMsgFullName"), ("internal/fhir", "yearZeroBase"),
     ("internal/fhirtest", "Elements"), ("internal/fhirtest", "BackboneElements"), ("internal/fhirtest", "Resources"),
     ("internal/fhirtest", "DomainResources"), ("internal/fhirtest", "CanonicalResources"), ("internal/fhirtest", "MetadataResources"),
     ("internal/protofields", "dummyResources"), ("internal/protofields", "dummyElements"), ("internal/protofields", "Resources"),
     ("internal/protofields", "Elements"), ("internal/resource", "delimiter"),
     ("internal/stablerand", "stableRand"), ("internal/stablerand", "randMutex")] := by
  decide +kernel

/-! ### (c) interleaving -/

/-- ownership discipline: thread `t` writes only locations it owns and reads only shared
    (`owner = none`) or own locations -/
def Disciplined (owner : Nat → Option Nat) (progs : List (List Act)) : Prop :=
  ∀ t prog, progs[t]? = some prog → ∀ a ∈ prog,
    (∀ l v, a = .write l v → owner l = some t) ∧ (∀ l, a = .read l → owner l = none ∨ owner l = some t)

def readsOf (i : Nat) (tr : List (Nat × Nat)) : List Nat := tr.filterMap (fun p => if p.1 = i then some p.2 else none)

theorem disciplined_set (owner : Nat → Option Nat) (progs : List (List Act)) (t : Nat) (a : Act) (rest : List Act)
    (hd : Disciplined owner progs) (ht : progs[t]? = some (a :: rest)) : Disciplined owner (progs.set t rest) := by
  intro u prog hu b hb
  rw [List.getElem?_set] at hu
  split at hu
  · subst u
    rw [if_pos (List.getElem?_eq_some_iff.mp ht).1] at hu
    cases hu
    exact hd t (a :: rest) ht b (List.mem_cons_of_mem _ hb)
  · exact hd u prog hu b hb

/-- Under every schedule, the values thread `i` reads are a prefix of what it reads when run
    alone (from any memory agreeing with the real one on shared and own locations). -/
theorem interleave_deterministic (owner : Nat → Option Nat) (i : Nat) (sched : List Nat) :
    ∀ (progs : List (List Act)) (m m' : Mem), Disciplined owner progs → Agree owner i m m' →
      (readsOf i (interleave m progs sched)) <+: solo m' (progs.getD i []) := by
  induction sched with
  | nil => intro progs m m' _ _; simp [interleave, readsOf]
  | cons t sched ih =>
    intro progs m m' hd ha
    unfold interleave
    cases hp : progs[t]? with
    | none => simpa using ih progs m m' hd ha
    | some prog =>
      cases prog with
      | nil => simpa using ih progs m m' hd ha
      | cons a rest =>
        -- the invariant is `Agree`: a read by `i` then yields the value of the run alone, a write keeps it
        -- (`agree_set`), and a step of another thread leaves what is left of `i`'s program (`getD_set`)
        have hd' := disciplined_set owner progs t a rest hd hp
        have hlt : t < progs.length := (List.getElem?_eq_some_iff.mp hp).1
        have hspec := hd t (a :: rest) hp a List.mem_cons_self
        have hcur : t = i → progs.getD i [] = a :: rest := fun e => by simp [← e, List.getD, hp]
        cases a with
        | read l =>
          have := ih (progs.set t rest) m m' hd' ha
          rw [getD_set progs t i rest [] hlt] at this
          by_cases hti : t = i
          · rw [hcur hti, solo, ← ha l (hti ▸ hspec.2 l rfl)]
            simpa [readsOf, hti] using this
          · simpa [readsOf, hti] using this
        | write l v =>
          have := ih (progs.set t rest) (m.set l v) _ hd' (agree_set owner i t l v m m' ha (hspec.1 l v rfl))
          rw [getD_set progs t i rest [] hlt] at this
          by_cases hti : t = i
          · rw [hcur hti, solo]; simpa [hti] using this
          · simpa [hti] using this

/-- in particular: the same schedule-independent reads from the same initial memory -/
theorem reads_independent_of_schedule (owner : Nat → Option Nat) (i : Nat) (s1 s2 : List Nat)
    (progs : List (List Act)) (m : Mem) (hd : Disciplined owner progs) :
    readsOf i (interleave m progs s1) <+: solo m (progs.getD i []) ∧
    readsOf i (interleave m progs s2) <+: solo m (progs.getD i []) :=
  ⟨interleave_deterministic owner i s1 progs m m hd (fun _ _ => rfl),
   interleave_deterministic owner i s2 progs m m hd (fun _ _ => rfl)⟩

/-! ### (d) one instant -/

/-- the wall clock is read in exactly one place of the evaluator packages, `InitializeContext`, and the
    reading is normalised to UTC before it is stored (the outermost method of the call chain is `UTC`) -/
theorem clock_read_once : clockCalls = [("fhirpath/internal/expr", "InitializeContext", "time.Now -> UTC")] := by decide +kernel

-- non-vacuity: two disciplined threads sharing location 0 and owning 1 and 2
example : Disciplined (fun l => if l = 1 then some 0 else if l = 2 then some 1 else none)
    [[.read 0, .write 1 5, .read 1], [.write 2 7, .read 0, .read 2]] := by
  intro t prog ht a ha
  match t, ht with
  | 0, ht => simp at ht; subst ht; simp at ha; rcases ha with rfl | rfl | rfl <;> simp
  | 1, ht => simp at ht; subst ht; simp at ha; rcases ha with rfl | rfl | rfl <;> simp
  | n + 2, ht => simp at ht

/-! ### the clock inside the assembled evaluator (FP.Model.Eval): `now()`, `today()`, `timeOfDay()` -/

section Clock
open FP.Model.Eval

/-- ONE READING PER EVALUATION: wherever a clock function stands in an expression — on whatever input
    collection it is evaluated, under whatever criterion, however often — it yields the reading the
    evaluation started with; nothing an expression does can change it -/
theorem expr_clock_is_the_reading (env : Env) (n : String) (h : isClockFn n = true) (input : List Val) :
    eval env (.fn n .argNil) input = clockFn n env :=
  eval_clock h

theorem expr_clock_same_everywhere (env : Env) (n : String) (h : isClockFn n = true) (i j : List Val) :
    eval env (.fn n .argNil) i = eval env (.fn n .argNil) j := by
  rw [eval_clock h, eval_clock h]

/-- a step before the clock function does not matter as long as it evaluates: `X.now()` is `now()` -/
theorem expr_clock_after_any_step (env : Env) (n : String) (h : isClockFn n = true) (a : E) (input mid : List Val)
    (ha : eval env a input = .ok mid) :
    eval env (.seq a (.fn n .argNil)) input = eval env (.fn n .argNil) input := by
  rw [eval_seq, ha, Res.ok_bind]
  exact expr_clock_same_everywhere env n h mid input

/-- the variables of the caller cannot shadow or disturb the reading: `finish` puts it in front -/
theorem clock_not_shadowed (clock : List Val) (env : Env) (n : String) :
    clockFn n ((clockKey, clock) :: env) = clockFn n [(clockKey, clock)] := by
  simp [clockFn, List.find?]

-- non-vacuity: a reading with an offset; today() is the date of the reading in its own zone
example : (match clockFn "today" [(clockKey, [strVal "2020-02-29T23:59:59.999+05:30".toList])] with
    | .ok [.date t] => t.comps | _ => []) = [2020, 2, 29] := by decide +kernel

end Clock

end FP.Props.C04
