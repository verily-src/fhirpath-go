/-
  C17 — environment variables and custom functions behave as declared.
  Theorems hold for option lists of ANY length and order.
-/
import FP.Model.Options
import FP.Lemmas.Options
import FP.Model.Eval
import FP.Lemmas.Eval
namespace FP.Props.C17
open FP FP.Model FP.Lemmas.Options

/-! ### all options are applied; any failure prevents evaluation -/

theorem applyAll_errs_append (m : EnvMap) (o : EnvOpt) (os : List EnvOpt) :
    (applyAll m (o :: os)).2 = (match (applyEnv m o).2 with | some e => [e] | none => []) ++ (applyAll (applyEnv m o).1 os).2 := rfl

/-- If any option fails, evaluation is skipped and the error is returned — wherever the failing
    option stands in the list and whatever the other options are. -/
theorem failing_option_prevents_evaluation {α : Type} (input : VShape) (pre post : List EnvOpt) (o : EnvOpt)
    (run : EnvMap → α) (hbad : validShape o.value = false) :
    ∃ errs, evaluateWith input (pre ++ o :: post) run = .error errs ∧ OptErr.unsupportedType ∈ errs := by
  have hmem : OptErr.unsupportedType ∈ (applyAll (initMap input) (pre ++ o :: post)).2 := by
    rw [applyAll_append]
    exact List.mem_append_right _ (by simp [applyAll, applyEnv, hbad])
  refine ⟨_, if_neg fun he => ?_, hmem⟩
  rw [List.isEmpty_iff.mp he] at hmem
  cases hmem

/-- collections do not nest: a collection inside a collection is unsupported whatever it holds -/
theorem nested_collection_unsupported (pre post inner : List VShape) :
    validShape (.coll (pre ++ .coll inner :: post)) = false :=
  validItems_mid pre post _ rfl

/-- `v` wrapped `n` times as the second item of a two-item collection: unsupported at depth 0 by hypothesis, at
    depth 1 as a collection holding an unsupported item, from depth 2 on whatever `v` is (collections do not nest) -/
theorem unsupported_deeply_nested (v : VShape) (h : validShape v = false) (n : Nat) :
    validShape (Nat.rec v (fun _ acc => .coll [.sys 1, acc]) n) = false := by
  cases n with
  | zero => exact h
  | succ n =>
    cases n with
    | zero => exact coll_invalid_of_item [.sys 1] [] v h
    | succ m => rfl

/-- a name supplied twice fails with ErrExistingConstant (second occurrence), whatever lies between -/
theorem duplicate_name_existing (m : EnvMap) (a b : EnvOpt) (mid post : List EnvOpt)
    (hn : a.name = b.name) (ha : validShape a.value = true) (hb : validShape b.value = true) :
    OptErr.existingConstant ∈ (applyAll m (a :: mid ++ b :: post)).2 := by
  -- after `a` the name is bound, and a bound name stays bound
  have h1 : (applyEnv m a).1.has b.name = true := by
    simp only [applyEnv, ha, Bool.not_true, Bool.false_eq_true, if_false]
    split
    · rw [← hn]; assumption
    · simp [EnvMap.has, hn]
  obtain ⟨v, hv⟩ := Option.isSome_iff_exists.mp (has_eq_isSome _ _ ▸ h1)
  have h2 : (applyAll (applyEnv m a).1 mid).1.has b.name = true := by
    rw [has_eq_isSome, applyAll_get _ mid _ v hv]; rfl
  rw [show a :: mid ++ b :: post = (a :: mid) ++ b :: post from rfl, applyAll_append]
  apply List.mem_append_right
  rw [show (applyAll m (a :: mid)).1 = (applyAll (applyEnv m a).1 mid).1 from rfl]
  generalize (applyAll (applyEnv m a).1 mid).1 = m' at h2 ⊢
  simp [applyAll, applyEnv, hb, h2]

/-- `context` and `ucum` are predefined: supplying them fails with ErrExistingConstant -/
theorem predefined_name_existing (input : VShape) (o : EnvOpt) (h : o.name = "context" ∨ o.name = "ucum")
    (hv : validShape o.value = true) :
    (applyEnv (initMap input) o).2 = some .existingConstant := by
  rcases h with h | h <;> simp [applyEnv, hv, initMap, EnvMap.has, h]

/-- on success every supplied variable evaluates to exactly the supplied value, `%context` is
    the input and `%ucum` is untouched -/
theorem supplied_value_is_read_back (m : EnvMap) (o : EnvOpt) (os : List EnvOpt)
    (hv : validShape o.value = true) (hfresh : m.has o.name = false) :
    (applyAll m (o :: os)).1.get o.name = some o.value := by
  refine applyAll_get _ os _ _ ?_
  simp only [applyEnv, hv, hfresh, Bool.not_true, Bool.false_eq_true, if_false]
  rw [has_eq_isSome, Option.isSome_eq_false_iff, Option.isNone_iff_eq_none] at hfresh
  rw [get_append, hfresh]
  simp [EnvMap.get]

theorem context_is_input (input : VShape) (os : List EnvOpt) :
    (applyAll (initMap input) os).1.get "context" = some input :=
  applyAll_get _ os "context" input (by simp [initMap, EnvMap.get])

/-- a collection is spliced in, not nested; an unknown variable is an evaluation error -/
theorem collection_spliced (m : EnvMap) (n : String) (items : List VShape) (h : m.get n = some (.coll items)) :
    lookupVar m n = .ok items := by simp [lookupVar, h]
theorem unknown_variable_error (m : EnvMap) (n : String) (h : m.get n = none) :
    lookupVar m n = .error "constant-not-found" := by simp [lookupVar, h]

/-! ### custom functions -/

theorem good_signature (ps : List GoTy) :
    validateSig ⟨true, .collection :: ps, [.collection, .error]⟩ = [] := by simp [validateSig]

theorem bad_signature_rejected (tableNames : List String) (name : String) (s : Sig)
    (hfresh : tableNames.contains name = false)
    (h : s.isFunc = false ∨ s.ins = [] ∨ s.ins.head? ≠ some .collection ∨ s.outs ≠ [.collection, .error]) :
    ∃ errs, register tableNames name s = .badSig errs ∧ errs ≠ [] := by
  have hv : validateSig s ≠ [] := by
    rw [Ne, validateSig_eq_nil_iff]
    rintro ⟨h1, h2, h3⟩
    rcases h with h | h | h | h
    · rw [h1] at h; cases h
    · rw [h] at h2; cases h2
    · exact h h2
    · exact h h3
  unfold register
  simp only [hfresh, Bool.false_eq_true, if_false]
  cases hvs : validateSig s with
  | nil => exact absurd hvs hv
  | cons e es => exact ⟨e :: es, rfl, by simp⟩

theorem existing_name_rejected (tableNames : List String) (name : String) (s : Sig) (h : name ∈ tableNames) :
    register tableNames name s = .exists := by
  have : tableNames.contains name = true := List.contains_iff_mem.mpr h
  simp only [register, this, if_true]

/-- a registered fixed-arity function is accepted only with exactly its number of arguments -/
theorem registered_arity (tableNames : List String) (name : String) (ps : List GoTy)
    (hfresh : tableNames.contains name = false) :
    register tableNames name ⟨true, .collection :: ps, [.collection, .error]⟩ = .registered ps.length := by
  simp only [register, hfresh, Bool.false_eq_true, if_false]
  simp [validateSig, sigArity]

/-- arguments reach the function as their single items; the result is passed through unchanged -/
theorem custom_call_passes_through (ps : List GoTy) (vals : List Nat) (h : vals.length = ps.length)
    (body : List Nat → Except String (List Nat)) :
    callCustom ⟨true, .collection :: ps, [.collection, .error]⟩
      ((ps.zip vals).map fun p => some [(p.1, p.2)]) body = body vals := by
  unfold callCustom
  have hl : ((ps.zip vals).map fun p => some [(p.1, p.2)]).length = sigArity ⟨true, .collection :: ps, [.collection, .error]⟩ := by
    simp [sigArity, h]
  simp only [hl, bne_self_eq_false, Bool.false_eq_true, if_false, List.drop_one, List.tail_cons]
  have gen : ∀ (ps : List GoTy) (vals acc : List Nat), vals.length = ps.length →
      callCustom.go body ps ((ps.zip vals).map fun p => some [(p.1, p.2)]) acc = body (acc.reverse ++ vals) := by
    intro ps
    induction ps with
    | nil => intro vals acc hv; cases vals <;> simp_all [callCustom.go]
    | cons t ts ih =>
      rintro (_ | ⟨v, vs⟩) acc hv
      · simp at hv
      · simp [callCustom.go, ih vs (v :: acc) (by simpa using hv)]
  simpa using gen ps vals [] h

/-- an argument that is not a single item, or of the wrong type, is an error — the function is not called -/
theorem custom_call_checks_args (t : GoTy) (ht : t ≠ .other "any") (body : List Nat → Except String (List Nat)) :
    callCustom ⟨true, [.collection, t], [.collection, .error]⟩ [some []] body = .error "invalid-return-type" ∧
    callCustom ⟨true, [.collection, t], [.collection, .error]⟩ [some [(t, 1), (t, 2)]] body = .error "invalid-return-type" ∧
    (∀ u, u ≠ t → callCustom ⟨true, [.collection, t], [.collection, .error]⟩ [some [(u, 1)]] body = .error "invalid-return-type") := by
  refine ⟨by simp [callCustom, callCustom.go, sigArity], by simp [callCustom, callCustom.go, sigArity], ?_⟩
  intro u hu
  have h1 : (u == t) = false := by simpa using hu
  have h2 : (t == GoTy.other "any") = false := by simpa using ht
  simp [callCustom, callCustom.go, sigArity, h1, h2]

example : (applyAll (initMap (.coll [])) [⟨"a", .sys 1⟩, ⟨"a", .sys 2⟩]).2 = [.existingConstant] := by decide
example : (applyAll (initMap (.coll [])) [⟨"x", .coll [.sys 1, .coll [.bad]]⟩, ⟨"ucum", .sys 2⟩]).2 = [.unsupportedType, .existingConstant] := by decide

/-! ### environment variables in the assembled evaluator (FP.Model.Eval) -/

section Expr
open FP.Model.Eval

/-- a supplied variable evaluates to exactly the supplied collection (spliced in, not nested), whatever
    the input is; an unknown one is an evaluation error -/
theorem expr_variable (env : Env) (n : String) (input : List Val) :
    (∀ v, env.find? (fun p => p.1 == n) = some (n, v) → eval env (.ext n) input = .ok v) ∧
    (env.find? (fun p => p.1 == n) = none → eval env (.ext n) input = .err "constant-not-found") := by
  refine ⟨fun v h => ?_, fun h => ?_⟩ <;> rw [eval_ext, h]

/-- `%context` is the input collection and `%ucum` the UCUM URL, for every program -/
theorem expr_predefined (env : Env) (input : List Val) :
    finish env input (.ok (.ext "context", false)) = .result input ∧
    finish env input (.ok (.ext "ucum", false)) = .result [.str (utf8 "http://unitsofmeasure.org".toList)] := by
  simp [finish, eval_ext]

/-- an unknown variable fails wherever it stands: an error in an operand is the error of the operation -/
theorem expr_unknown_variable_propagates (env : Env) (n : String) (op : ArithOp) (r : E) (input : List Val)
    (h : env.find? (fun p => p.1 == n) = none) :
    eval env (.arith op (.ext n) r) input = .err "constant-not-found" ∧
    eval env (.seq (.ext n) r) input = .err "constant-not-found" ∧
    eval env (.eq false (.ext n) r) input = .err "constant-not-found" := by
  rw [eval_arith, eval_seq, eval_eq, eval_ext, h]
  exact ⟨rfl, rfl, rfl⟩

end Expr

end FP.Props.C17
