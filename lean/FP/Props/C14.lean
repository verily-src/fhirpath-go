/-
  C14 — string functions operate on characters and are mutually consistent.
  The model works on `List Char` (Unicode scalar values); the correspondence compares it with the
  real functions on strings over a mixed 1–4-byte alphabet, so byte/character confusion in the
  code shows up as a disagreement.
  In the assembled evaluator: `upper()` / `lower()` on ASCII receivers (length, composition, staying ASCII), and
  `join([separator])` of the experimental table.
-/
import FP.Model.Strings
import FP.Lemmas.Strings
import FP.Lemmas.Case
import FP.Lemmas.Eval
namespace FP.Props.C14
open FP FP.Model FP.Lemmas.Strings

/-- `s.toChars().count() = s.length()` -/
theorem toChars_count_eq_length (s : Str) : ((toChars s).length : Int) = lengthFn s := by
  simp [toChars, lengthFn]

/-- out-of-range positions yield empty -/
theorem substring_out_of_range (s : Str) (start : Int) (len : Option Int) (h : start < 0 ∨ start ≥ s.length) :
    substring s start len = none := by
  simp [substring, h]

/-- the string is the concatenation of its first k characters and the rest:
    `s.substring(0,k) & s.substring(k) = s` (an empty result counts as '' under `&`) -/
theorem substring_split (s : Str) (k : Nat) (hk : k ≤ s.length) :
    (substring s 0 (some k)).getD [] ++ (substring s k none).getD [] = s := by
  by_cases hs : s = []
  · subst hs; simp [substring]
  · have hpos : 0 < s.length := List.length_pos_iff.mpr hs
    rw [substring_some s 0 k (by omega) (by omega) (by omega)]
    by_cases hke : k = s.length
    · simp [hke, substring]
    · rw [substring_none s k (by omega) (by omega)]; simp

/-- a returned substring is what the positions say: `length` characters from `start` -/
theorem substring_spec (s : Str) (start len : Nat) (h : start + len < s.length) :
    substring s start (some len) = some ((s.drop start).take len) :=
  substring_some s start len (by omega) (by omega) (by omega)

theorem isPrefix_append (t u : Str) : isPrefix t (t ++ u) = true := (isPrefix_iff t _).mpr ⟨u, rfl⟩

/-- `startsWith` is "is a prefix of" on characters -/
theorem startsWith_spec (s t : Str) : startsWith s t = true ↔ ∃ u, s = t ++ u := isPrefix_iff t s

/-- `endsWith` is "is a suffix of" -/
theorem endsWith_spec (s t : Str) : endsWith s t = true ↔ ∃ u, s = u ++ t := by
  unfold endsWith
  rw [isPrefix_iff]
  constructor
  · rintro ⟨u, hu⟩
    exact ⟨u.reverse, by simpa using congrArg List.reverse hu⟩
  · rintro ⟨u, rfl⟩
    exact ⟨u.reverse, by simp⟩

/-- `s.indexOf(t) = i ≥ 0` implies `s.substring(i).startsWith(t)` -/
theorem indexOf_sound (s t : Str) (i : Int) (h : indexOf s t = i) (hi : i ≥ 0) :
    isPrefix t (s.drop i.toNat) = true := by
  obtain ⟨k, hk, -, hp⟩ := indexOfAux_eq_add t s 0 i h hi
  rwa [show i.toNat = k by omega]

/-- `s.contains(t)` iff `s.indexOf(t) ≥ 0` (by definition of the model, which the
    correspondence ties to `strings.Contains` / `strings.Index`) -/
theorem contains_iff_indexOf (s t : Str) : containsStr s t = true ↔ indexOf s t ≥ 0 := by
  simp [containsStr]

/-- no occurrence ⇒ `replace` leaves the string alone -/
theorem replaceGo_no_match (p r : Str) (s : Str) (h : ∀ k, isPrefix p (s.drop k) = false ∨ s.drop k = []) :
    replaceGo p r 0 s = s := by
  induction s with
  | nil => rfl
  | cons c cs ih =>
    have h0 := h 0
    simp at h0
    rw [replaceGo, if_neg (by simp [h0]), ih fun k => by simpa using h (k + 1)]

/-- replacing a (non-empty) pattern by itself is the identity -/
theorem replace_self (p : Str) (hp : p ≠ []) (s : Str) : replaceGo p p 0 s = s :=
  replaceGo_self p hp s 0

/-! ### `upper()` / `lower()` in the assembled evaluator (FP.Model.Eval), receivers within ASCII.
    Receivers with a character beyond U+007F are outside this model (`unmodelled`); for them the
    harness compares the implementation with per-character Unicode case mapping (law C14/case-map). -/

section Case
open FP.Model.Eval FP.Lemmas.Case

/-- case mapping keeps the number of characters, on whole expressions: `s.upper().length() = s.length()` -/
theorem case_keeps_length (f : Char → Char) (s : Str) : lengthFn (s.map f) = lengthFn s := by
  simp [lengthFn]

/-- `upper()` is idempotent and `lower()` undoes nothing `upper()` did that `lower()` would not do itself:
    `s.upper().upper() = s.upper()`, `s.lower().lower() = s.lower()`, `s.upper().lower() = s.lower()` — for every string -/
theorem case_maps_compose (s : Str) :
    (s.map asciiUpper).map asciiUpper = s.map asciiUpper ∧
    (s.map asciiLower).map asciiLower = s.map asciiLower ∧
    (s.map asciiUpper).map asciiLower = s.map asciiLower := by
  refine ⟨?_, ?_, ?_⟩ <;> simp [List.map_map, Function.comp_def, asciiUpper_idem, asciiLower_idem, asciiLower_upper]

/-- the result of a case mapping on an ASCII string is an ASCII string (so a chain of `upper()` / `lower()`
    calls never leaves the modelled fragment) -/
theorem case_stays_ascii (s : Str) (h : isAscii s = true) :
    isAscii (s.map asciiUpper) = true ∧ isAscii (s.map asciiLower) = true := by
  simp only [isAscii, List.all_eq_true, decide_eq_true_eq, List.mem_map, forall_exists_index, and_imp] at h ⊢
  exact ⟨fun c x hx hc => hc ▸ (ascii_stays_ascii x (h x hx)).1, fun c x hx hc => hc ▸ (ascii_stays_ascii x (h x hx)).2⟩

/-- cardinality on whole expressions: no item gives no item, several items are an error — whatever follows -/
theorem expr_case_cardinality (env : Env) (n : String) (hn : n = "upper" ∨ n = "lower") :
    eval env (.fn n .argNil) [] = .ok [] ∧ ∀ a b r, eval env (.fn n .argNil) (a :: b :: r) = .err "not-singleton" := by
  rcases hn with rfl | rfl <;> simp [eval_upper, eval_lower, caseOn]

example : eval [] (.fn "upper" .argNil) [strVal "a1-z{".toList] = .ok [strVal "A1-Z{".toList] := by decide +kernel

end Case

/-! ### `join([separator])` (experimental table) in the assembled evaluator -/

section Join
open FP.Model.Eval

/-- `join('')` / `join()` is concatenation -/
theorem joinBytes_nil_delim (l : List (List UInt8)) : joinBytes [] l = l.flatten := by
  induction l with
  | nil => rfl
  | cons x rest ih =>
    cases rest with
    | nil => simp [joinBytes]
    | cons y r => simp [joinBytes, ih]

/-- one item is joined to itself, whatever the separator is -/
theorem join_single (d x : List UInt8) : joinOn d [.str x] = .ok [.str x] := by
  simp [joinOn, strBytes?, joinBytes]

/-- an item that is not a String is an error, never skipped and never rendered -/
theorem join_non_string_is_error (d : List UInt8) (input : List Val) (v : Val) (hv : v ∈ input) (hs : strBytes? v = none) :
    joinOn d input = .err "not-a-string" := by
  have : (input.all fun v => (strBytes? v).isSome) = false := List.all_eq_false.mpr ⟨v, hv, by simp [hs]⟩
  cases input with
  | nil => cases hv
  | cons a r => simp only [joinOn, this, Bool.false_eq_true, if_false]

/-- a non-empty collection of Strings is one String: the texts with the separator between them -/
theorem join_strings (d : List UInt8) (l : List (List UInt8)) (h : l ≠ []) :
    joinOn d (l.map .str) = .ok [.str (joinBytes d l)] := by
  have hf : (l.map Val.str).filterMap strBytes? = l := by
    rw [List.filterMap_map]; exact List.filterMap_some
  have ha : ((l.map Val.str).all fun v => (strBytes? v).isSome) = true := by simp [strBytes?]
  cases l with
  | nil => exact absurd rfl h
  | cons a r => rw [List.map_cons] at ha hf ⊢; simp only [joinOn, ha, if_true, hf]

/-- `s.toChars().join()` gives the characters back in order (on the character lists of FP.Model.Strings) -/
theorem toChars_join (s : Str) : (toChars s).flatten = s := by
  induction s with
  | nil => rfl
  | cons c cs ih => simpa [toChars] using ih

example : joinOn [44] [.str [97], .str [98], .str []] = .ok [.str [97, 44, 98, 44]] := by decide

end Join

example : substring "héllo".toList 1 (some 1) = some "é".toList := by decide
example : indexOf "日本語".toList "語".toList = 2 := by decide
example : replaceAll "abc".toList [] "-".toList = "-a-b-c-".toList := by decide
example : lengthFn "é😀".toList = 2 := by decide

end FP.Props.C14
