/-
  C16 — every built-in function is callable under its specification name and arity.
  The statements about `FP.Gen.FuncTable` (regenerated from funcs/table.go on every run) and the written-out
  N1 list `FP.Ref.n1` are decided by kernel evaluation; the others are about the model of Compile, for any table.
-/
import FP.Model.FuncTable
import FP.Ref.N1
import FP.Model.Eval
import FP.Lemmas.Eval
namespace FP.Props.C16
open FP FP.Model FP.Ref FP.Gen.FuncTable

/-- Compile accepts a call exactly when the name is in the table and the count is within bounds. -/
theorem accept_iff (t : List Entry) (name : String) (n : Nat) :
    (∃ i, compileCall t name n = .accepted i) ↔
      ∃ e, lookup t name = some e ∧ e.min ≤ n ∧ n ≤ e.max := by
  unfold compileCall
  cases h : lookup t name with
  | none => simp
  | some e =>
    simp only [Option.some.injEq, exists_eq_left']
    by_cases c : (n < e.min || n > e.max) = true
    · rw [if_pos c]
      simp only [Bool.or_eq_true, decide_eq_true_eq] at c
      exact ⟨(fun ⟨_, h⟩ => nomatch h), fun h => by omega⟩
    · rw [if_neg c]
      simp only [Bool.or_eq_true, decide_eq_true_eq] at c
      exact ⟨fun _ => by omega, fun _ => ⟨_, rfl⟩⟩

/-- …and an accepted call is bound to that entry's implementation. -/
theorem accepted_impl (t : List Entry) (name : String) (n : Nat) (i : String)
    (h : compileCall t name n = .accepted i) : ∃ e, lookup t name = some e ∧ e.impl = i := by
  unfold compileCall at h
  cases hl : lookup t name with
  | none => simp [hl] at h
  | some e =>
    simp only [hl] at h
    split at h
    · cases h
    · cases h; exact ⟨e, rfl, rfl⟩

def specReachable (t : List Entry) (s : Spec) : Bool :=
  match lookup t s.name with
  | none => false
  | some e => s.arities.all (fun k => e.min ≤ k && k ≤ e.max)

/-- Every N1 function is reachable under its specification name with each argument count the
    specification allows. -/
theorem spec_names_and_arities_reachable : n1.all (specReachable baseTable) = true := by decide +kernel

def boundToSameName (e : Entry) : Bool := e.impl == "unimplemented" || e.impl == implName e.name

/-- Every entry (base and experimental) is bound to the implementation of that same name, or to
    the explicit not-implemented placeholder. -/
theorem bound_to_same_name : (baseTable ++ experimentalTable).all boundToSameName = true := by decide +kernel

def noExtraArities (t : List Entry) (s : Spec) : Bool :=
  match lookup t s.name with
  | none => true
  | some e => (List.range 6).all (fun k => !(e.min ≤ k && k ≤ e.max) || s.arities.contains k) && e.max < 6

/-- Conversely the table accepts no argument count the specification does not allow. -/
theorem no_extra_arities : n1.all (noExtraArities baseTable) = true := by decide +kernel

/-- the same for the functions of the experimental table, under WithExperimentalFuncs: each is
    reachable with every argument count of its specification and with no other -/
theorem experimental_reachable :
    experimentalSpec.all (specReachable (tableFor true)) = true ∧ experimentalSpec.all (noExtraArities (tableFor true)) = true ∧
    experimentalTable.all (fun e => experimentalSpec.any (fun s => s.name == e.name)) = true := by decide +kernel

/-- The names that are not implemented are exactly these, each bound to the placeholder that
    returns the explicit not-implemented error (never to some other function). -/
def notImplementedNames : List String :=
  ["combine", "ofType", "repeat", "single", "subsetOf", "supersetOf", "trace", "union"]
theorem unimplemented_explicit :
    (baseTable.filter (fun e => e.impl == "unimplemented")).map (·.name) = notImplementedNames := by decide +kernel

/-- names are unique, so `lookup` is the table (Go map) lookup -/
theorem names_unique : (baseTable.map (·.name)).Nodup ∧ (experimentalTable.map (·.name)).Nodup := by decide +kernel

/-- experimental functions never shadow or alter a base entry -/
theorem experimental_preserves_base :
    baseTable.all (fun e => lookup (withExperimental baseTable) e.name == some e) = true := by decide +kernel

example : compileCall baseTable "power" 1 = .accepted "impl.Power" := by decide +kernel
example : compileCall baseTable "power" 0 = .arity := by decide +kernel
example : compileCall baseTable "nosuch" 0 = .unresolved := by decide +kernel
example : compileCall (tableFor true) "join" 1 = .accepted "impl.Join" := by decide +kernel

/-! ### Compile of a call, in the assembled visitor model (FP.Model.Eval.compile) -/

section Expr
open FP.Model.Eval

/-- Compile accepts a call EXACTLY when the name is in the function table and the number of written
    arguments lies within that entry's bounds (the arguments themselves compiling) — whatever the
    arguments are and wherever the call stands -/
theorem expr_call_accepted_iff (tbl : List Entry) (n : String) (as : Syntax.Ex) (vr : Bool) (cas : E) (vr' : Bool)
    (ha : compile tbl as vr = .ok (cas, vr')) :
    compile tbl (.call n as) vr ≠ .error ↔
      ∃ ent, lookup tbl n = some ent ∧ ent.min ≤ argCount as ∧ argCount as ≤ ent.max := by
  simp only [compile]
  cases hl : lookup tbl n with
  | none => simp
  | some ent =>
    simp only [ha, CRes.bind, Option.some.injEq, exists_eq_left']
    -- none of the three rows below the bounds test is `.error`
    by_cases hb : (argCount as < ent.min || argCount as > ent.max) = true
    · rw [if_pos hb]
      simp only [Bool.or_eq_true, decide_eq_true_eq] at hb
      exact ⟨fun h => absurd rfl h, fun h => by omega⟩
    · rw [if_neg hb]
      simp only [Bool.or_eq_true, decide_eq_true_eq] at hb
      refine ⟨fun _ => by omega, fun _ => ?_⟩
      split
      · exact nofun
      · split <;> exact nofun

/-- a call whose argument list does not compile does not compile -/
theorem expr_call_bad_argument (tbl : List Entry) (n : String) (as : Syntax.Ex) (vr : Bool)
    (ha : compile tbl as vr = .error) : compile tbl (.call n as) vr = .error := by
  simp only [compile]
  cases lookup tbl n <;> simp [ha, CRes.bind]

/-- a function the table binds to the placeholder fails when evaluated, with the explicit error -/
theorem expr_unimplemented_fails (env : Env) (args : E) (input : List FP.Model.Val) :
    eval env (.fn "unimplemented!" args) input = .err "not-implemented" :=
  eval_unimplemented args

end Expr

/-- `join` is a function of the experimental table only: against the base table Compile rejects the call whatever its
    arguments are; with the experimental entries added it is accepted with no or one argument and with no other count -/
theorem join_needs_the_experimental_table (as : FP.Model.Syntax.Ex) (vr : Bool) :
    FP.Model.Eval.compile FP.Gen.FuncTable.baseTable (.call "join" as) vr = .error := by
  have : lookup FP.Gen.FuncTable.baseTable "join" = none := by decide +kernel
  simp [FP.Model.Eval.compile, this]

theorem join_in_the_experimental_table :
    (lookup (withExperimental FP.Gen.FuncTable.baseTable) "join").map (fun e => (e.impl, e.min, e.max)) = some ("impl.Join", 0, 1) := by
  decide +kernel

end FP.Props.C16
