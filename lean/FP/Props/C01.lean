/-
  C01 — Compile, Evaluate and Patch are total: never panic or hang on any input.

  Totality is a property of the real code at run time; what a theorem can carry is (1) that the
  constructs which end a call with a Go panic by design (panic(...), Must* helpers, unchecked type
  assertions) are exactly an audited list — regenerated from the source on every run, so a new one
  breaks this theorem and sends the check looking for an input that reaches it — and (2) that every
  executable model of the evaluator's parts (each tied to the code by its own correspondence check)
  has no crash outcome: arithmetic, three-valued logic, navigation, conversions, calendar
  arithmetic, integer narrowing (C15.narrow_never_panics), resource wrapping
  (C20.wrap_never_panics_on_registered), patch operations and the parser (an `Option`) are total
  functions into value / empty / error.  Hangs, stack exhaustion and memory exhaustion are run-time
  behaviour no model exhibits: they are searched for by the harness under a wall-clock budget.
-/
import FP.Gen.Panics
import FP.Model.Navigate
import FP.Model.Patch
import FP.Lemmas.EvalTotal
namespace FP.Props.C01
open FP FP.Model FP.Go FP.Lemmas

/-- the audited inventory.  Why none of these is reachable with an input of the domain:
    * `MustCompile`, `MustParse*`, `MustCreateTypeSpecifier`, `MustConvertToInteger`: the panicking
      helpers themselves; the evaluator calls them only on constants ("0.0", "1.0") or on text it has
      just produced from a value of the same type (now/today/timeOfDay format the clock with the
      layout they then parse; toQuantity re-parses the digits of an Integer) — see the `must` rows;
    * `Round`: `MustParseDecimal` of "%d" of an int32;
    * `containedresource.Wrap`, `resource.New`/`TypeOf`, `reference.TypedFromIdentity`,
      `protofields.Overwrite`: panic on a resource type that is not one of the registered R4 types
      (C20 proves the registration table complete) or on a nil resource (outside the domain);
    * unchecked assertions: on values whose dynamic type the preceding code established (visitor
      results are always *VisitResult / *typeResult; reflection over proto messages of known kinds). -/
def expectedSites : List (String × String × String × String) := [
  ("fhirpath", "MustCompile", "panic", ""),
  ("fhirpath/internal/expr", "unwrapReference", "assert", "rv.Get(…).Message(…).Interface(…).(*dtpb.ReferenceId)"),
  ("fhirpath/internal/funcs", "ToFunction", "assert", "output[…].Interface(…).(system.Collection)"),
  ("fhirpath/internal/funcs", "ToFunction", "assert", "output[…].Interface(…).(system.Collection)"),
  ("fhirpath/internal/funcs/impl", "Round", "must", "system.MustParseDecimal(<expr>)"),
  ("fhirpath/internal/funcs/impl", "ToDecimal", "assert", "value.(system.Boolean)"),
  ("fhirpath/internal/funcs/impl", "ToDecimal", "must", "system.MustParseDecimal(\"0.0\")"),
  ("fhirpath/internal/funcs/impl", "ToDecimal", "must", "system.MustParseDecimal(\"1.0\")"),
  ("fhirpath/internal/funcs/impl", "ToInteger", "assert", "value.(system.Boolean)"),
  ("fhirpath/internal/funcs/impl", "ToQuantity", "must", "system.MustParseQuantity(\"0.0\")"),
  ("fhirpath/internal/funcs/impl", "ToQuantity", "must", "system.MustParseQuantity(\"1.0\")"),
  ("fhirpath/internal/funcs/impl", "ToQuantity", "must", "system.MustParseQuantity(<expr>)"),
  ("fhirpath/internal/funcs/impl", "ToQuantity", "must", "system.MustParseQuantity(<expr>)"),
  ("fhirpath/internal/funcs/impl", "ToQuantity", "must", "system.MustParseQuantity(<expr>)"),
  ("fhirpath/internal/funcs/impl", "ToQuantity", "must", "system.MustParseQuantity(<expr>)"),
  ("fhirpath/internal/funcs/impl", "parseHumanDuration", "must", "regexp.MustCompile(`(\\d+)\\s*(\\w+)`)"),
  ("fhirpath/internal/parser", "VisitAdditiveExpression", "assert", "ctx.GetChild(…).(antlr.TerminalNode)"),
  ("fhirpath/internal/parser", "VisitAdditiveExpression", "assert", "v.Visit(…).(*VisitResult)"),
  ("fhirpath/internal/parser", "VisitAdditiveExpression", "assert", "v.clone(…).Visit(…).(*VisitResult)"),
  ("fhirpath/internal/parser", "VisitAndExpression", "assert", "v.Visit(…).(*VisitResult)"),
  ("fhirpath/internal/parser", "VisitAndExpression", "assert", "v.clone(…).Visit(…).(*VisitResult)"),
  ("fhirpath/internal/parser", "VisitEqualityExpression", "assert", "ctx.GetChild(…).(antlr.TerminalNode)"),
  ("fhirpath/internal/parser", "VisitEqualityExpression", "assert", "v.Visit(…).(*VisitResult)"),
  ("fhirpath/internal/parser", "VisitEqualityExpression", "assert", "v.clone(…).Visit(…).(*VisitResult)"),
  ("fhirpath/internal/parser", "VisitFunction", "assert", "v.Visit(…).([]*VisitResult)"),
  ("fhirpath/internal/parser", "VisitImpliesExpression", "assert", "v.Visit(…).(*VisitResult)"),
  ("fhirpath/internal/parser", "VisitImpliesExpression", "assert", "v.clone(…).Visit(…).(*VisitResult)"),
  ("fhirpath/internal/parser", "VisitIndexerExpression", "assert", "v.Visit(…).(*VisitResult)"),
  ("fhirpath/internal/parser", "VisitIndexerExpression", "assert", "v.clone(…).Visit(…).(*VisitResult)"),
  ("fhirpath/internal/parser", "VisitInequalityExpression", "assert", "ctx.GetChild(…).(antlr.TerminalNode)"),
  ("fhirpath/internal/parser", "VisitInequalityExpression", "assert", "v.Visit(…).(*VisitResult)"),
  ("fhirpath/internal/parser", "VisitInequalityExpression", "assert", "v.clone(…).Visit(…).(*VisitResult)"),
  ("fhirpath/internal/parser", "VisitInvocationExpression", "assert", "v.Visit(…).(*VisitResult)"),
  ("fhirpath/internal/parser", "VisitInvocationExpression", "assert", "v.Visit(…).(*VisitResult)"),
  ("fhirpath/internal/parser", "VisitMultiplicativeExpression", "assert", "ctx.GetChild(…).(antlr.TerminalNode)"),
  ("fhirpath/internal/parser", "VisitMultiplicativeExpression", "assert", "v.Visit(…).(*VisitResult)"),
  ("fhirpath/internal/parser", "VisitMultiplicativeExpression", "assert", "v.clone(…).Visit(…).(*VisitResult)"),
  ("fhirpath/internal/parser", "VisitOrExpression", "assert", "ctx.GetChild(…).(antlr.TerminalNode)"),
  ("fhirpath/internal/parser", "VisitOrExpression", "assert", "v.Visit(…).(*VisitResult)"),
  ("fhirpath/internal/parser", "VisitOrExpression", "assert", "v.clone(…).Visit(…).(*VisitResult)"),
  ("fhirpath/internal/parser", "VisitParamList", "assert", "v.Visit(…).(*VisitResult)"),
  ("fhirpath/internal/parser", "VisitPolarityExpression", "assert", "ctx.GetChild(…).(antlr.TerminalNode)"),
  ("fhirpath/internal/parser", "VisitPolarityExpression", "assert", "v.Visit(…).(*VisitResult)"),
  ("fhirpath/internal/parser", "VisitProg", "assert", "v.Visit(…).(*VisitResult)"),
  ("fhirpath/internal/parser", "VisitTypeExpression", "assert", "ctx.GetChild(…).(antlr.TerminalNode)"),
  ("fhirpath/internal/parser", "VisitTypeExpression", "assert", "v.Visit(…).(*VisitResult)"),
  ("fhirpath/internal/parser", "VisitTypeExpression", "assert", "v.Visit(…).(*typeResult)"),
  ("fhirpath/internal/parser", "VisitTypeSpecifier", "assert", "v.Visit(…).([]string)"),
  ("fhirpath/internal/reflection", "MustCreateTypeSpecifier", "panic", ""),
  ("fhirpath/system", "MustParseDate", "panic", ""),
  ("fhirpath/system", "MustParseDateTime", "panic", ""),
  ("fhirpath/system", "MustParseDecimal", "panic", ""),
  ("fhirpath/system", "MustParseQuantity", "panic", ""),
  ("fhirpath/system", "MustParseTime", "panic", ""),
  ("fhirpath/system", "TryEqual", "assert", "c[…].(fhir.Base)"),
  ("fhirpath/system", "TryEqual", "assert", "other[…].(fhir.Base)"),
  ("fhirpath/system", "callEqual", "assert", "got.(bool)"),
  ("internal/containedresource", "Unwrap", "assert", "message.Interface(…).ProtoReflect(…).Interface(…).(fhir.Resource)"),
  ("internal/containedresource", "Wrap", "panic", ""),
  ("internal/element/reference", "TypedFromIdentity", "panic", ""),
  ("internal/element/reference", "typedFromURIString", "assert", "message.(*dtpb.Reference)"),
  ("internal/element/reference", "typedFromURIString", "assert", "message.(*dtpb.Reference)"),
  ("internal/fhirconv", "MustConvertToInteger", "panic", ""),
  ("internal/protofields", "Overwrite", "panic", ""),
  ("internal/resource", "New", "panic", ""),
  ("internal/resource", "NewFromString", "assert", "fields.New(…).(fhir.Resource)"),
  ("internal/resource", "TypeOf", "panic", ""),
  ("internal/slices", "IndexOf", "assert", "any(…).(proto.Message)"),
  ("internal/slices", "IndexOf", "assert", "any(…).(proto.Message)"),
  ("internal/slices", "MustConvert", "assert", "any(…).(To)")
]

theorem panic_sites_are_the_audited_ones : FP.Gen.Panics.sites = expectedSites := by decide +kernel

/-! ### no executable model has a crash outcome -/

/-- arithmetic on in-range operands (division by zero, overflow included) -/
theorem arithmetic_total (op : ArithOp) (l r : Val)
    (hl : ∀ i, l = .int i → inInt32 i) (hr : ∀ i, r = .int i → inInt32 i) : arithExpr op l r ≠ .panic :=
  arithExpr_ne_panic op l r
theorem logic_total (op : BoolOp) (l r : List BItem) : boolExpr op l r ≠ .panic :=
  EvalTotal.boolExpr_ne_panic op l r

/-- navigation: a step yields elements or the invalid-field / cast error -/
theorem navigation_total (name snake : String) (id : Nat) (m : MsgDesc) : fieldStep name snake id m ≠ .panic := by
  unfold fieldStep emit
  -- every arm is `.ok` or `.err`
  repeat' split
  all_goals simp

/-- conversions: value, empty or the (pinned) error -/
theorem conversions_total (t : Conv.Ty) (x : Conv.CV) : Conv.convTo t x ≠ .panic :=
  FP.Lemmas.Conv.convTo_ne_panic t x

/-- calendar arithmetic: a reading or the mismatched-unit error -/
theorem calendar_total (p : Calendar.Prec) (w : Text.Wall) (v : Dec) (u : String) (s : Int) :
    Calendar.shiftDate p w v u s ≠ .panic ∧ Calendar.shiftDateTime p w v u s ≠ .panic ∧ Calendar.shiftTime p w v u s ≠ .panic :=
  ⟨EvalTotal.shiftDate_ne_panic p w v u s, EvalTotal.shiftDateTime_ne_panic p w v u s, EvalTotal.shiftTime_ne_panic p w v u s⟩

/-- patch: the outcome type has no crash constructor — every operation ends in ok or an error -/
theorem patch_total (o : Patch.Outcome) : o = .ok ∨ ∃ e, o = .err e := by
  cases o with
  | ok => exact Or.inl rfl
  | err e => exact Or.inr ⟨e, rfl⟩

/-! ### the assembled evaluator: Compile + Evaluate as a whole never crash -/

/-- THE EVALUATOR MODEL IS TOTAL: for every compiled expression — every nesting of operators, paths,
    indexers, type operators, criteria and every modelled function — every environment and every
    input collection, evaluation yields a collection or a named error, never a crash.  No hypothesis on
    the operands (zero divisors, MinInt32, empty and multi-item collections, values of the wrong type). -/
theorem evaluator_never_crashes (env : Eval.Env) (e : Eval.E) (input : List Val) :
    Eval.eval env e input ≠ .panic :=
  EvalTotal.eval_ne_panic env e input

/-- … and so is the whole pipeline from the source text: for every source string, function table,
    environment and input, `run` is a result, an evaluation error, a Compile error or "outside the
    modelled fragment" — never the crash outcome -/
theorem compile_evaluate_never_crash (tbl : List FP.Gen.FuncTable.Entry) (src : String) (env : Eval.Env)
    (input : List Val) : Eval.run tbl src env input ≠ .crash := by
  unfold Eval.run
  split
  · simp
  · exact EvalTotal.finish_ne_crash _ _ _

end FP.Props.C01
