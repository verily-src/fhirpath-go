/-
  C09 — date/time arithmetic matches calendar arithmetic and preserves precision.
  Theorems over FP.Model.Calendar: the proleptic Gregorian day-number bijection (every day number is
  a calendar date and back), and on top of it the laws of the arithmetic of fhirpath/system.
-/
import FP.Model.Calendar
import FP.Gen.Layouts
import FP.Model.LayoutPrec
import FP.Lemmas.Tables
import FP.Lemmas.Calendar
import FP.Lemmas.Res
import FP.Model.Eval
import FP.Lemmas.Eval
namespace FP.Props.C09
open FP FP.Model FP.Model.Text FP.Model.Calendar FP.Lemmas.Calendar

/-- a reading whose date part is a calendar date -/
def ValidDate (w : Wall) : Prop := 1 ≤ w.month ∧ w.month ≤ 12 ∧ 1 ≤ w.day ∧ w.day ≤ daysIn w.month w.year

/-! ### the calendar -/

/-- day numbers and calendar dates are in bijection (all years, proleptic Gregorian) -/
theorem calendar_bijection :
    (∀ z, daysFromCivil (civilFromDays z).1 (civilFromDays z).2.1 (civilFromDays z).2.2 = z) ∧
    (∀ y m d, 1 ≤ m ∧ m ≤ 12 → 1 ≤ d ∧ d ≤ daysIn m y → civilFromDays (daysFromCivil y m d) = (y, m, d)) :=
  ⟨days_civil, civil_days⟩

theorem addDays_valid (w : Wall) (n : Int) : ValidDate (addDays w n) := by
  obtain ⟨h1, h2, h3, h4, _⟩ := civilFromDays_spec (dayNumber w + n)
  exact ⟨h1, h2, h3, h4⟩

/-- a week is seven days -/
theorem week_is_seven_days (p : Prec) (hp : 2 ≤ p) (v : Dec) :
    shiftFor p v .week = { days := 7 * Dec.intPartBig v } ∧ shiftFor p v .day = { days := Dec.intPartBig v } := by
  match p, hp with
  | p + 2, _ => exact ⟨rfl, rfl⟩

/-- (x + n days) - n days = x -/
theorem addDays_inverse (w : Wall) (hv : ValidDate w) (n : Int) : addDays (addDays w n) (-n) = w := by
  rw [addDays, addDays_dayNumber, Int.add_neg_cancel_right, dayNumber,
    civil_days w.year w.month w.day ⟨hv.1, hv.2.1⟩ ⟨hv.2.2.1, hv.2.2.2⟩]
  rfl

/-- the result is monotone in the amount -/
theorem addDays_monotone (w : Wall) (a b : Int) (h : a ≤ b) : dayNumber (addDays w a) ≤ dayNumber (addDays w b) := by
  rw [addDays_dayNumber, addDays_dayNumber]; omega

/-! ### months and years: end-of-month clamping -/

theorem addMonths_valid (w : Wall) (hv : ValidDate w) (k : Int) : ValidDate (addMonthsClamp w k) := by
  have hg := daysIn_ge (addMonthsClamp w k).month (addMonthsClamp w k).year
  simp only [addMonthsClamp, ValidDate] at hg ⊢
  refine ⟨by omega, by omega, ?_, ?_⟩
  · split
    · exact hv.2.2.1
    · omega
  · split
    · assumption
    · exact Int.le_refl _

/-- (x + k months) - k months = x whenever no end-of-month clamping occurs -/
theorem addMonths_inverse (w : Wall) (hv : ValidDate w) (k : Int)
    (hnoclamp : w.day ≤ daysIn (addMonthsClamp w k).month (addMonthsClamp w k).year) :
    addMonthsClamp (addMonthsClamp w k) (-k) = w := by
  have hd : (addMonthsClamp w k).day = w.day := if_pos hnoclamp
  -- the months are counted back to where they started, and a month in 1..12 is read off its count
  have ht : (addMonthsClamp w k).year * 12 + ((addMonthsClamp w k).month - 1) + -k = w.year * 12 + (w.month - 1) := by
    simp only [addMonthsClamp]; omega
  have hy : (w.year * 12 + (w.month - 1)) / 12 = w.year := by have := hv.1; have := hv.2.1; omega
  have hm : (w.year * 12 + (w.month - 1)) % 12 + 1 = w.month := by have := hv.1; have := hv.2.1; omega
  rw [addMonthsClamp, ht, hy, hm, hd, if_pos hv.2.2.2]
  rfl

/-! ### exact durations -/

/-- a time of day within one day -/
def ValidTime (w : Wall) : Prop :=
  0 ≤ w.hour ∧ w.hour < 24 ∧ 0 ≤ w.minute ∧ w.minute < 60 ∧ 0 ≤ w.second ∧ w.second < 60 ∧ 0 ≤ w.nanos ∧ w.nanos < nsPerSec

theorem timeOfDay_range (w : Wall) (h : ValidTime w) : 0 ≤ timeOfDayNs w ∧ timeOfDayNs w < nsPerDay := by
  obtain ⟨h1, h2, h3, h4, h5, h6, h7, h8⟩ := h
  unfold timeOfDayNs nsPerDay nsPerSec at *
  omega

/-- the result is monotone in the amount, and (x + q) - q is the same instant as x -/
theorem addNanos_monotone (w : Wall) (a b : Int) (h : a ≤ b) : instantNs (addNanos w a) ≤ instantNs (addNanos w b) := by
  rw [addNanos_instant, addNanos_instant]; omega
theorem addNanos_inverse_instant (w : Wall) (ns : Int) : instantNs (addNanos (addNanos w ns) (-ns)) = instantNs w := by
  rw [addNanos_instant, addNanos_instant]; omega

/-! ### the arithmetic of fhirpath/system -/

/-- a unit that is not a calendar duration keyword is an error, never a silently unchanged value -/
theorem unsupported_unit_is_error (p : Prec) (w : Wall) (v : Dec) (unit : String) (sign : Int) (h : unitOf unit = none) :
    shiftDate p w v unit sign = .err "mismatched-unit" ∧ shiftDateTime p w v unit sign = .err "mismatched-unit" ∧
    shiftTime p w v unit sign = .err "mismatched-unit" := by
  simp [shiftDate, shiftDateTime, shiftTime, h]

/-- Time accepts only time-valued units, and wraps around midnight: the result is a time of day -/
theorem time_rejects_calendar_units (p : Prec) (w : Wall) (v : Dec) (sign : Int) :
    shiftTime p w v "days" sign = .err "mismatched-unit" ∧ shiftTime p w v "month" sign = .err "mismatched-unit" :=
  ⟨shiftTime_calendar_unit p w v "days" sign .day rfl (.inr (.inr (.inr rfl))),
    shiftTime_calendar_unit p w v "month" sign .month rfl (.inr (.inl rfl))⟩
theorem time_wraps (p : Prec) (w w' : Wall) (v : Dec) (unit : String) (sign : Int) (h : shiftTime p w v unit sign = .ok w') :
    ValidTime w' := by
  unfold shiftTime at h
  split at h
  · cases h
  · split at h
    · cases h
    · simp only [Res.ok.injEq] at h
      subst h
      generalize timeOfDayNs w + sign * _ = t
      unfold ValidTime withTimeOfDay nsPerDay nsPerSec
      dsimp only
      omega

/-- an amount in a unit finer than the precision is converted to whole units of the precision,
    fractions dropped: hours on a day-precision value, seconds on a minute-precision value -/
theorem finer_units_converted (v : Dec) :
    shiftFor 2 v .hour = { days := tquo (Dec.intPartBig v * 3600 * nsPerSec) nsPerDay } ∧
    shiftFor 4 v .hour = { nanos := tquo (Dec.intPartBig v * 3600 * nsPerSec) (60 * nsPerSec) * (60 * nsPerSec) } ∧
    shiftFor 0 v .day = { years := tquo (Dec.intPartBig v) 365 } ∧
    shiftFor 1 v .day = { months := tquo (Dec.intPartBig v) 30 } ∧
    shiftFor 0 v .month = { years := tquo (Dec.intPartBig v) 12 } := by
  refine ⟨rfl, rfl, rfl, rfl, rfl⟩

/-- twenty-four hours on a day-precision value are exactly one day; twenty-three are none -/
example : shiftFor 2 ⟨24, 0⟩ .hour = { days := 1 } ∧ shiftFor 2 ⟨23, 0⟩ .hour = { days := 0 } ∧
    shiftFor 2 ⟨-23, 0⟩ .hour = { days := 0 } ∧ shiftFor 0 ⟨365, 0⟩ .day = { years := 1 } := by decide

/-- end-of-month clamping on concrete dates: Jan 31 + 1 month, Feb 29 + 1 year, and the inverse law's exclusion -/
example : (addMonthsClamp ⟨2020, 1, 31, 0, 0, 0, 0, 0⟩ 1).day = 29 ∧ (addMonthsClamp ⟨2021, 1, 31, 0, 0, 0, 0, 0⟩ 1).day = 28 ∧
    (addMonthsClamp ⟨2020, 2, 29, 0, 0, 0, 0, 0⟩ 12).day = 28 ∧
    addMonthsClamp (addMonthsClamp ⟨2020, 1, 31, 0, 0, 0, 0, 0⟩ 1) (-1) ≠ ⟨2020, 1, 31, 0, 0, 0, 0, 0⟩ := by decide

example : ValidDate ⟨2024, 2, 29, 0, 0, 0, 0, 0⟩ := by unfold ValidDate; decide

/-! ### date / time arithmetic on whole expressions (the assembled evaluator, FP.Model.Eval) -/

section Expr
open FP.Model.Eval FP.Model.Temporal

/-- whatever the operand expressions are: when the left one evaluates to a single Date / DateTime /
    Time and the right one to a single Quantity, `+` and `-` ARE the calendar shift of the
    model (`shiftVal` of FP.Model.Temporal over FP.Model.Calendar; with a mismatched unit an error, never a guessed
    value) -/
theorem expr_temporal_shift (env : Env) (l r : E) (input : List Val) (x : Val) (v : Dec) (u : List UInt8)
    (hx : isTemporal x = true) (hl : eval env l input = .ok [x]) (hr : eval env r input = .ok [.quantity v u]) :
    eval env (.arith .add l r) input = mapArithErr (shiftVal 1 x v u) ∧
    eval env (.arith .sub l r) input = mapArithErr (shiftVal (-1) x v u) := by
  rw [eval_arith, eval_arith, hl, hr]
  simp only [Res.ok_bind, arithEv, hx, if_true, and_self]

/-- the result has the operand's type and layout (its precision), and a DateTime keeps its offset -/
theorem shift_keeps_type_precision_zone (sg : Int) (x y : Val) (v : Dec) (u : List UInt8)
    (h : shiftVal sg x v u = .ok y) :
    (∀ a, x = .date a → ∃ b, y = .date b ∧ b.layout = a.layout) ∧
    (∀ a, x = .dateTime a → ∃ b, y = .dateTime b ∧ b.layout = a.layout ∧ b.off = a.off) ∧
    (∀ a, x = .time a → ∃ b, y = .time b ∧ b.layout = a.layout) := by
  unfold shiftVal at h
  split at h
  · cases h
  · -- per kind (Date, DateTime, Time, anything else): the payload is rebuilt around the new reading, layout kept
    split at h
    · split at h
      · cases h
      · obtain ⟨w, _, rfl⟩ := Res.bind_ok_inv h
        simp [tmpOfDate]
    · split at h
      · cases h
      · obtain ⟨w, hw, rfl⟩ := Res.bind_ok_inv h
        simp [tmpOfDateTime, shiftDateTime_offset hw, wallOfDateTime, inZone]
    · split at h
      · cases h
      · obtain ⟨w, _, rfl⟩ := Res.bind_ok_inv h
        simp [tmpOfTime]
    · cases h

/-- the bridge keeps the instant: the UTC reading the comparison payload is built from denotes the same
    instant as the reading in the value's own zone, at offset zero -/
theorem utcWall_same_instant (w : Wall) : instantNs (utcWall w) = instantNs w ∧ (utcWall w).offset = 0 := by
  refine ⟨?_, addNanos_offset _ _⟩
  rw [utcWall, addNanos_instant, instantNs_offset]
  unfold nsPerSec; omega

/-- … and back: the reading arithmetic works on, recovered from the payload and the kept offset, denotes
    the same instant as the reading the payload was built from, in the same zone -/
theorem zone_roundtrip_same_instant (w : Wall) :
    instantNs (inZone (utcWall w) w.offset) = instantNs w ∧ (inZone (utcWall w) w.offset).offset = w.offset := by
  refine ⟨?_, rfl⟩
  rw [inZone, instantNs_offset, addNanos_instant, addNanos_offset, (utcWall_same_instant w).2, (utcWall_same_instant w).1]
  unfold nsPerSec; omega

/-- non-vacuity, and the clamping example of the property on the whole pipeline: the source text
    `@2020-01-31 + 1 month` compiles and evaluates to the Date 2020-02-29 -/
example : (run FP.Gen.FuncTable.baseTable "@2020-01-31 + 1 month" [] []) =
    .result [.date ⟨[2020, 2, 29], [2020, 2, 29, 0, 0, 0], "2006-01-02", 0⟩] := by decide +kernel

end Expr

open FP.Gen.Layouts in
/-- PRECISION IS THE LAYOUT'S: every entry of the regenerated `dateMap`, `dateTimeMap` and `timeMap`
    gives its layout the precision the layout's own text has — with or without an offset.  (The
    arithmetic and comparison models read these tables, so a wrong entry would change model and
    implementation alike; this theorem is what notices it.) -/
theorem layout_precisions_are_the_layouts :
    dateMap.all (fun p => p.2 == impliedPrecision (goLayout p.1.toList)) = true ∧
    dateTimeMap.all (fun p => p.2 == impliedPrecision (goLayout p.1.toList)) = true ∧
    timeMap.all (fun p => p.2 + 3 == impliedPrecision (goLayout p.1.toList)) = true := Lemmas.Tables.layout_precisions

end FP.Props.C09
