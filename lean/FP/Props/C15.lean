/-
  C15 — literals and value representations round-trip losslessly.
  Part 1: integer narrowing succeeds exactly when the value is representable (`FP.Gen.Narrow` is
  translated from internal/narrow/narrow.go on every run).
  Part 2: string literals — the regenerated escape table is the specification's, every escape
  decodes to the character it denotes, every other character is left intact, and decoding undoes
  the escaping a writer of literals performs, for all strings.
  Part 3: the canonical string forms of Boolean, Integer, Decimal, Quantity (with a word unit), Date,
  DateTime and Time values re-parse to the same value: five of the six theorems restate theorems of
  FP.Props.C13, which this module imports (their second halves, `x.toString()` left out);
  `decimal_text_roundtrip` rests on FP.Lemmas.DecText.
-/
import FP.Gen.Narrow
import FP.Ref.IntKinds
import FP.Model.Literal
import FP.Lemmas.Literal
import FP.Props.C13
namespace FP.Props.C15
open FP FP.Go FP.Ref FP.Gen.Narrow

/-- Signed source types (every value of int, int8 … int64 is an int64): `ToInteger` reports
    success exactly when the value lies in the target kind's range — for all 11 target kinds and
    all 2^64 values. -/
theorem narrow_signed_iff_representable (to : String) (hto : to ∈ intKinds) (v : Int)
    (hv : -9223372036854775808 ≤ v ∧ v ≤ 9223372036854775807) :
    toIntegerOk true to v = some (representable to v) := by
  simp only [intKinds, List.mem_cons, List.mem_nil_iff, or_false] at hto
  have hw : wrap64 v = v := by unfold wrap64; omega
  -- `wrap64 v` goes first: left inside the eleven branches it is rewritten in each (four times the cost);
  -- `delta`, because `simp only` leaves the wrap functions inside the `Decidable` instances
  rw [toIntegerOk, if_pos rfl, hw]
  delta canNarrowSigned wrapU64 wrap64
  -- the string tests pick the kind's branch and its row of `kindRange`: the same bounds on `v` twice
  rcases hto with rfl | rfl | rfl | rfl | rfl | rfl | rfl | rfl | rfl | rfl | rfl
  all_goals simp only [representable, kindRange, String.reduceEq, decide_false, decide_true, Bool.false_eq_true,
    if_false, if_true, Option.some.injEq]
  all_goals (rw [Bool.eq_iff_iff]; simp; omega)

/-- Unsigned source types (every value is a uint64). -/
theorem narrow_unsigned_iff_representable (to : String) (hto : to ∈ intKinds) (v : Int)
    (hv : 0 ≤ v ∧ v ≤ 18446744073709551615) :
    toIntegerOk false to v = some (representable to v) := by
  simp only [intKinds, List.mem_cons, List.mem_nil_iff, or_false] at hto
  have hw : v % 18446744073709551616 = v := by omega
  rcases hto with rfl | rfl | rfl | rfl | rfl | rfl | rfl | rfl | rfl | rfl | rfl
  all_goals simp only [toIntegerOk, canNarrowUnsigned, representable, kindRange, wrapU64, wrap64, if_true, hw,
    String.reduceEq, decide_false, decide_true, Bool.false_eq_true, if_false, Option.some.injEq]
  all_goals (rw [Bool.eq_iff_iff]; simp; omega)

/-- the range test never traps -/
theorem narrow_never_panics (s : Bool) (to : String) (v : Int) : (toIntegerOk s to v).isSome := by
  cases s <;> simp [toIntegerOk, canNarrowSigned, canNarrowUnsigned, apply_ite Option.isSome]

example : toIntegerOk true "uint8" 255 = some true := by decide
example : toIntegerOk true "uint8" 256 = some false := by decide
example : toIntegerOk false "int64" 9223372036854775808 = some false := by decide

/-! ### Part 2: string literals -/
section Literals
open FP.Model.Literal FP.Gen.Escapes

/-- the escape table of the source is the FHIRPath specification's: \' \" \` \r \t \n \f \\ \/ -/
theorem escape_table_is_spec :
    escapeTable = [(39, 39), (34, 34), (96, 96), (114, 13), (116, 9), (110, 10), (102, 12), (92, 92), (47, 47)] := by
  decide +kernel

/-- characters other than the backslash are left intact -/
theorem no_backslash_unchanged (s : List Char) (h : ∀ c ∈ s, c ≠ '\\') (f : Nat) (hf : s.length ≤ f) :
    decodeAux f s = s := by
  induction s generalizing f with
  | nil => exact Lemmas.Literal.decodeAux_nil f
  | cons c r ih =>
    cases f with
    | zero => simp at hf
    | succ f =>
      rw [Lemmas.Literal.decodeAux_cons_ne f c r (h c (by simp)), ih (fun x hx => h x (List.mem_cons_of_mem _ hx)) f (by simp at hf; omega)]

/-- every escape of the specification decodes to the character it denotes -/
theorem escapes_decode :
    escapeOf '\'' = some '\'' ∧ escapeOf '"' = some '"' ∧ escapeOf '`' = some '`' ∧ escapeOf 'r' = some '\r' ∧
    escapeOf 't' = some '\t' ∧ escapeOf 'n' = some '\n' ∧ escapeOf 'f' = some (Char.ofNat 12) ∧
    escapeOf '\\' = some '\\' ∧ escapeOf '/' = some '/' := by decide +kernel

/-- \uXXXX decodes to the code point -/
theorem unicode_decodes (r : List Char) (f : Nat) :
    decodeAux (f + 1) ('\\' :: 'u' :: '0' :: '0' :: '4' :: '1' :: r) = 'A' :: decodeAux f r := by
  have h1 : escapeOf 'u' = none := by decide +kernel
  have h2 : unicode? '0' '0' '4' '1' = some 'A' := by decide +kernel
  simp [decodeAux, h1, takeUnicode, h2]

/-- DECODE ∘ ENCODE = id: for every string, the literal body a writer produces by escaping
    backslash and quote decodes back to the string -/
theorem decode_encode (s : List Char) (f : Nat) (hf : (encode s).length ≤ f) : decodeAux f (encode s) = s := by
  induction s generalizing f with
  | nil => exact Lemmas.Literal.decodeAux_nil f
  | cons c r ih =>
    unfold encode at hf ⊢
    by_cases hc : (c == '\\' || c == '\'') = true
    · simp only [hc, if_true] at hf ⊢
      cases f with
      | zero => simp at hf
      | succ f =>
        have he : escapeOf c = some c := by
          rcases Bool.or_eq_true _ _ |>.mp hc with h | h
          · have : c = '\\' := by simpa using h
            subst this; exact escapes_decode.2.2.2.2.2.2.2.1
          · have : c = '\'' := by simpa using h
            subst this; exact escapes_decode.1
        rw [Lemmas.Literal.decodeAux_esc f c c (encode r) he]
        -- one step consumed two characters: the remaining fuel is still enough
        have hlen : (encode r).length ≤ f := by simp at hf; omega
        rw [ih f hlen]
    · have hcf : (c == '\\' || c == '\'') = false := by simpa using hc
      simp only [hcf, Bool.false_eq_true, if_false] at hf ⊢
      cases f with
      | zero => simp at hf
      | succ f =>
        have hne : c ≠ '\\' := by intro e; subst e; simp at hcf
        rw [Lemmas.Literal.decodeAux_cons_ne f c (encode r) hne, ih f (by simp at hf; omega)]

/-- the whole literal: quotes dropped, body decoded -/
theorem literal_roundtrip (s : List Char) : parseString ('\'' :: encode s ++ ['\'']) = s := by
  have ht : trimQuotes ('\'' :: encode s ++ ['\'']) = encode s := by
    simp [trimQuotes, List.reverse_append]
  unfold parseString
  rw [ht]
  exact decode_encode s _ (Nat.le_refl _)

end Literals

/-! ### Part 3: canonical string forms re-parse to the same value (restated from C13) -/

open FP.Model.Text FP.Model.Conv FP.Lemmas.Text FP.Gen.Layouts in
theorem boolean_text_roundtrip (b : Bool) :
    toBooleanV (.str (if b then "true".toList else "false".toList)) = .ok (some (.bool b)) :=
  (FP.Props.C13.boolean_roundtrip b).2

open FP.Model.Text FP.Model.Conv FP.Lemmas.Text FP.Gen.Layouts in
theorem integer_text_roundtrip (i : Int) (h : -2147483648 ≤ i ∧ i < 2147483648) :
    toIntegerV (.str (renderInt i)) = .ok (some (.int i)) :=
  (FP.Props.C13.integer_roundtrip i h).2

open FP.Model.Text FP.Model.Conv FP.Lemmas.Text FP.Gen.Layouts in
/-- a Date / DateTime / Time value with any layout of the parser tables, rendered with its layout
    and parsed again, is the same value: same layout (precision), same reading, same offset -/
theorem temporal_text_roundtrip (w : Wall) (hb : Bounded w) (hn : w.nanos % 1000000 = 0) :
    (∀ (i : Nat) (l : String), parseDateLayouts[i]? = some l → Expressible (goLayout l.toList) w →
      toDateV (.str (formatT l w)) = .ok (some (.date l w))) ∧
    (∀ (i : Nat) (l : String), parseDateTimeLayouts[i]? = some l → Expressible (goLayout l.toList) w →
      toDateTimeV (.str (formatT l w)) = .ok (some (.dateTime l w))) ∧
    (∀ (i : Nat) (l : String), parseTimeLayouts[i]? = some l → Expressible (goLayout l.toList) w →
      toTimeV (.str (formatT l w)) = .ok (some (.time l w))) :=
  ⟨fun i l hl hx => (FP.Props.C13.date_roundtrip i l hl w hb hx hn).2,
   fun i l hl hx => (FP.Props.C13.dateTime_roundtrip i l hl w hb (FP.Lemmas.Conv.fractionLayout_plain _ w hn ▸ hx)).2,
   fun i l hl hx => (FP.Props.C13.time_roundtrip i l hl w hb (FP.Lemmas.Conv.fractionLayout_plain _ w hn ▸ hx)).2⟩

open FP.Model.Text FP.Model.Conv FP.Lemmas.Text FP.Gen.Layouts in
/-- the same for values with digits below the millisecond (fraction digits 4..9): the rendering has
    six or nine fraction digits and re-parses to the same layout, reading and offset -/
theorem temporal_text_roundtrip_fine (w : Wall) (hb : Bounded w) (hn : w.nanos % 1000000 ≠ 0) :
    (∀ (i : Nat) (l : String), parseDateTimeLayouts[i]? = some l → Expressible (fractionLayout (goLayout l.toList) w) w →
      toDateTimeV (.str (formatT l w)) = .ok (some (.dateTime l w))) ∧
    (∀ (i : Nat) (l : String), parseTimeLayouts[i]? = some l → Expressible (fractionLayout (goLayout l.toList) w) w →
      toTimeV (.str (formatT l w)) = .ok (some (.time l w))) :=
  ⟨fun i l hl hx => (FP.Props.C13.dateTime_roundtrip_fine i l hl w hb hn hx).2,
   fun i l hl hx => (FP.Props.C13.time_roundtrip_fine i l hl w hb hn hx).2⟩

open FP.Model FP.Model.Text FP.Model.Conv in
/-- the canonical string form of a Decimal re-parses (`NewFromString ∘ String`) to a decimal of the
    same value, for every coefficient and every exponent the library can hold; the decimal literal
    of the grammar (`digits.digits`) is among these texts -/
theorem decimal_text_roundtrip (d : Dec) (hexp : -2147483648 ≤ d.exp ∧ d.exp ≤ 2147483647) :
    ∃ d', parseDecGo (renderDec d) = some d' ∧ Dec.eq d' d = true ∧
      toDecimalV (.str (renderDec d)) = .ok (some (.dec d')) := by
  obtain ⟨d', hp, he⟩ := FP.Lemmas.DecText.parseDecGo_renderDec d hexp
  exact ⟨d', hp, he, FP.Lemmas.DecText.toDecimalV_render d d' hp⟩

open FP.Model FP.Model.Text FP.Model.Conv in
/-- Quantity: **partial** — the string form re-parses when the unit is a plain word (the calendar
    keywords); a UCUM unit is written bare and does not (finding C13-quantity-string-form) -/
theorem quantity_text_roundtrip_partial (d : Dec) (hexp : -2147483648 ≤ d.exp ∧ d.exp ≤ 2147483647)
    (a : Char) (t : S) (hu : (a :: t).all isAlpha = true) :
    ∃ d', toQuantityV (.str (renderQuantity d (a :: t))) = .ok (some (.quantity d' (a :: t))) ∧ Dec.eq d' d = true := by
  obtain ⟨d', h, he⟩ := (FP.Props.C13.quantity_word_roundtrip_partial d hexp a t hu).2
  exact ⟨d', by simpa [renderQuantity] using h, he⟩

end FP.Props.C15
