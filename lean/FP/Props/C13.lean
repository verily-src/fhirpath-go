/-
  C13 — conversion functions are mutually consistent and round-trip through strings.
  Theorems over the model of conversion.go (FP.Model.Conv) and the text model (FP.Model.Text).
-/
import FP.Model.Conv
import FP.Lemmas.Text
import FP.Lemmas.Conv
import FP.Lemmas.ConvTable
import FP.Lemmas.DecText
import FP.Model.LayoutPrec
import FP.Model.Eval
import FP.Lemmas.Eval
namespace FP.Props.C13
open FP FP.Model FP.Model.Text FP.Model.Conv FP.Lemmas.Text FP.Lemmas.Conv FP.Lemmas.DecText FP.Gen.Layouts

/-- `x.convertsToT()` is true exactly when `x.toT()` is a value (for every item that `system.From`
    accepts; the complex-input case of toString is the known finding below) -/
theorem converts_iff_nonempty (t : Ty) (x : CV) (hx : x ≠ .complex) :
    convertsTo t x = true ↔ ∃ v, convTo t x = .ok (some v) := by
  unfold convertsTo
  constructor
  · intro h
    split at h
    · rename_i v hv; exact ⟨v, hv⟩
    · cases h
  · rintro ⟨v, hv⟩
    rw [hv]
    by_cases ht : t = .string
    · -- the Boolean that toString yields for complex input is no String
      have hb : v ≠ .bool false := fun e => by have := convTo_ty t x v hx hv; subst e ht; cases this
      simp [ht, hb]
    · simp [ht]

/-- the result of `toT` is always of type T (complex input to toString excepted) -/
theorem result_type (t : Ty) (x v : CV) (hx : x ≠ .complex) (h : convTo t x = .ok (some v)) : v.ty = t :=
  convTo_ty t x v hx h

/-- converting twice equals converting once: a value of type T converts to itself -/
theorem self_conversion (x : CV) (hx : x ≠ .complex) : convTo x.ty x = .ok (some x) :=
  convTo_self x hx

theorem idempotent (t : Ty) (x v : CV) (hx : x ≠ .complex) (h : convTo t x = .ok (some v)) :
    convTo t v = .ok (some v) := by
  have ht := result_type t x v hx h
  -- nothing converts to a complex item: its type has no conversion
  have hv : v ≠ .complex := fun hc => by subst hc ht; cases h
  rw [← ht]; exact self_conversion v hv

/-- which conversions can succeed follows the FHIRPath conversion table -/
theorem follows_table (t : Ty) (x v : CV) (hx : x ≠ .complex) (h : convTo t x = .ok (some v)) :
    tableAllows x.ty t = true := by
  cases x
  case complex => exact absurd rfl hx
  -- every other entry by evaluation: it is allowed (`rfl`), or its conversion is empty and `h` impossible
  all_goals cases t <;> first | rfl | cases h

/-- `toT()` never fails, except `toInteger()` on a string that is not an integer (known finding,
    pinned by TestToInteger) -/
theorem never_fails_partial (t : Ty) (x : CV) (h : ¬ (t = .integer ∧ ∃ s, x = .str s)) :
    ∃ r, convTo t x = .ok r := by
  rcases convTo_spec t x with ⟨o, ho, -⟩ | ⟨ht, hs, -⟩
  · exact ⟨o, ho⟩
  · exact absurd ⟨ht, hs⟩ h

/-- the excluded case does fail, and toString on a complex element yields a Boolean: the two
    recorded deviations (both pinned by the repository's unit tests) -/
theorem toInteger_string_fails : convTo .integer (.str "404 Kg".toList) = .err "parse" := by decide
theorem toString_complex_is_boolean : convTo .string .complex = .ok (some (.bool false)) := rfl

/-! ### `x.toString().toT() = x` for x already of type T -/

theorem boolean_roundtrip (b : Bool) :
    (toStringV (.bool b)) = .ok (some (.str (if b then "true".toList else "false".toList))) ∧
    toBooleanV (.str (if b then "true".toList else "false".toList)) = .ok (some (.bool b)) := by
  cases b <;> exact ⟨rfl, by decide⟩

theorem integer_roundtrip (i : Int) (h : -2147483648 ≤ i ∧ i < 2147483648) :
    toStringV (.int i) = .ok (some (.str (renderInt i))) ∧
    toIntegerV (.str (renderInt i)) = .ok (some (.int i)) := by
  refine ⟨rfl, ?_⟩
  simp [toIntegerV, parseIntGo_renderInt i h]

/-- the regenerated layout tables of the three parsers have the properties the round trip needs
    (evaluated on them): no earlier layout accepts the rendering
    of a later one, every millisecond layout has its sibling without a fraction in the table, which
    reads the widened renderings with the fraction inside the seconds piece, and `widenLayout` maps
    the sibling back -/
theorem date_table_ok : layoutsOK parseDateLayouts parseDateLayoutsPrefix = true := by decide +kernel
theorem dateTime_table_ok : layoutsOK parseDateTimeLayouts parseDateTimeLayoutsPrefix = true := by decide +kernel
theorem time_table_ok : layoutsOK parseTimeLayouts parseTimeLayoutsPrefix = true := by decide +kernel

/-- a Date with the i-th date layout, rendered by toString and converted back, is the same value
    (same layout, hence precision, and same calendar reading) -/
theorem date_roundtrip (i : Nat) (l : String) (hl : parseDateLayouts[i]? = some l) (w : Wall) (hb : Bounded w)
    (hx : Expressible (goLayout l.toList) w) (hn : w.nanos % 1000000 = 0) :
    toStringV (.date l w) = .ok (some (.str (formatT l w))) ∧
    toDateV (.str (formatT l w)) = .ok (some (.date l w)) := by
  refine ⟨rfl, ?_⟩
  obtain ⟨j, hj, -, hi⟩ := table_roundtrip _ _ date_table_ok i l hl w hb (by rw [fractionLayout_plain _ w hn]; exact hx)
  have : parseDateLayouts.getD i "" = l := by simp [List.getD, hl]
  simp only [toDateV, parseDate, hj, hi hn, this]

/-- the same for a DateTime and a Time, whatever their digits below the second -/
theorem dateTime_roundtrip (i : Nat) (l : String) (hl : parseDateTimeLayouts[i]? = some l) (w : Wall) (hb : Bounded w)
    (hx : Expressible (fractionLayout (goLayout l.toList) w) w) :
    toStringV (.dateTime l w) = .ok (some (.str (formatT l w))) ∧
    toDateTimeV (.str (formatT l w)) = .ok (some (.dateTime l w)) := by
  refine ⟨rfl, ?_⟩
  obtain ⟨j, hj, hw, -⟩ := table_roundtrip _ _ dateTime_table_ok i l hl w hb hx
  simp only [toDateTimeV, parseDateTime, parseFirstOk_of offsetInRange _ _ j w hj (offsetInRange_of_bounded w hb), hw]

theorem time_roundtrip (i : Nat) (l : String) (hl : parseTimeLayouts[i]? = some l) (w : Wall) (hb : Bounded w)
    (hx : Expressible (fractionLayout (goLayout l.toList) w) w) :
    toStringV (.time l w) = .ok (some (.str (formatT l w))) ∧
    toTimeV (.str (formatT l w)) = .ok (some (.time l w)) := by
  refine ⟨rfl, ?_⟩
  obtain ⟨j, hj, hw, -⟩ := table_roundtrip _ _ time_table_ok i l hl w hb hx
  simp only [toTimeV, parseTime, hj, hw]

/-- the hypotheses are satisfiable: a millisecond dateTime with an offset, and what "expressible"
    excludes (sub-millisecond digits under a millisecond layout) -/
example : Bounded ⟨2024, 2, 29, 23, 59, 58, 123000000, 19800⟩ := by
  constructor <;> decide
example : Expressible (goLayout "2006-01-02T15:04:05.000Z07:00".toList) ⟨2024, 2, 29, 23, 59, 58, 123000000, 19800⟩ := by
  decide +kernel
example : ¬ Expressible (goLayout "2006-01-02T15:04:05.000Z07:00".toList) ⟨2024, 2, 29, 23, 59, 58, 123456000, 0⟩ := by
  decide +kernel

/-! ### digits below the millisecond -/

/-- DIGITS BELOW THE MILLISECOND: a DateTime whose reading has microseconds or nanoseconds,
    rendered by toString (six or nine fraction digits) and converted back, is the same value -/
theorem dateTime_roundtrip_fine (i : Nat) (l : String) (hl : parseDateTimeLayouts[i]? = some l) (w : Wall) (hb : Bounded w)
    (hn : w.nanos % 1000000 ≠ 0) (hx : Expressible (fractionLayout (goLayout l.toList) w) w) :
    toStringV (.dateTime l w) = .ok (some (.str (formatT l w))) ∧
    toDateTimeV (.str (formatT l w)) = .ok (some (.dateTime l w)) :=
  dateTime_roundtrip i l hl w hb hx

theorem time_roundtrip_fine (i : Nat) (l : String) (hl : parseTimeLayouts[i]? = some l) (w : Wall) (hb : Bounded w)
    (hn : w.nanos % 1000000 ≠ 0) (hx : Expressible (fractionLayout (goLayout l.toList) w) w) :
    toStringV (.time l w) = .ok (some (.str (formatT l w))) ∧
    toTimeV (.str (formatT l w)) = .ok (some (.time l w)) :=
  time_roundtrip i l hl w hb hx

/-- the hypotheses are satisfiable: microseconds under the millisecond layout -/
example : Expressible (fractionLayout (goLayout "2006-01-02T15:04:05.000Z07:00".toList) ⟨2024, 2, 29, 23, 59, 58, 123456000, 19800⟩)
    ⟨2024, 2, 29, 23, 59, 58, 123456000, 19800⟩ := by
  decide +kernel

/-! ### Decimal and Quantity texts -/

/-- a Decimal rendered by toString converts back to a Decimal of the same value: for every
    coefficient and every exponent the decimal library can hold -/
theorem decimal_roundtrip (d : Dec) (hexp : -2147483648 ≤ d.exp ∧ d.exp ≤ 2147483647) :
    toStringV (.dec d) = .ok (some (.str (renderDec d))) ∧
    ∃ d', toDecimalV (.str (renderDec d)) = .ok (some (.dec d')) ∧ Dec.eq d' d = true := by
  refine ⟨rfl, ?_⟩
  obtain ⟨d', hp, he⟩ := parseDecGo_renderDec d hexp
  exact ⟨d', toDecimalV_render d d' hp, he⟩

/-- a Quantity whose unit is a plain word (the calendar-duration keywords are of this form) round
    trips through its string form.  For UCUM units the string form does not re-parse — the recorded
    finding C13-quantity-string-form, pinned by TestToString — so this is the *partial* statement -/
theorem quantity_word_roundtrip_partial (d : Dec) (hexp : -2147483648 ≤ d.exp ∧ d.exp ≤ 2147483647)
    (a : Char) (t : S) (hu : (a :: t).all isAlpha = true) :
    toStringV (.quantity d (a :: t)) = .ok (some (.str (renderDec d ++ ' ' :: a :: t))) ∧
    ∃ d', toQuantityV (.str (renderDec d ++ ' ' :: a :: t)) = .ok (some (.quantity d' (a :: t))) ∧ Dec.eq d' d = true := by
  refine ⟨by simp [toStringV, renderQuantity], ?_⟩
  obtain ⟨d', hp, he⟩ := parseDecGo_renderDec d hexp
  refine ⟨d', ?_, he⟩
  -- `SplitN(s, " ", 2)` cuts at the blank: the number is the rendering, the rest the word, which
  -- `Trim(…, "'")` leaves alone; the expression gave no quoted unit, so the word is the unit
  have hnum : (renderDec d ++ ' ' :: a :: t).take (renderDec d).length = renderDec d := List.take_left' rfl
  have hrest : (renderDec d ++ ' ' :: a :: t).drop ((renderDec d).length + 1) = a :: t := by
    rw [← List.drop_drop, List.drop_left]; rfl
  simp only [toQuantityV, matchQuantity_render_word d a t hu, indexWhere_space_render, hnum, hrest,
    trim_quotes_word _ hu, hp]
  rfl

/-- the finding itself, on the model: a UCUM unit written bare is not read back -/
theorem quantity_ucum_counterexample :
    toStringV (.quantity ⟨5, 0⟩ "mg/dL".toList) = .ok (some (.str "5 mg/dL".toList)) ∧
    toQuantityV (.str "5 mg/dL".toList) = .ok none := by
  refine ⟨?_, by decide⟩
  simp [toStringV, renderQuantity, renderDec, renderInt, natDigits]; decide

/-! ### the parser tables of layouts.go -/

/-- THE PARSER TABLES ARE THE SPECIFICATION'S: each type is read with one layout per precision, finest
    first (so that a text is read at the precision it is written with), after its own literal marker.
    (The round-trip theorems above hold for whatever tables pass `layoutsOK`; this pins the regenerated
    tables themselves, which the model reads like the implementation does.) -/
theorem layout_lists_as_specified :
    parseDateLayouts = ["2006-01-02", "2006-01", "2006"] ∧ parseDateLayoutsPrefix = "@" ∧
    parseDateTimeLayouts = ["2006-01-02T15:04:05.000Z07:00", "2006-01-02T15:04:05.000", "2006-01-02T15:04:05Z07:00",
      "2006-01-02T15:04:05", "2006-01-02T15:04Z07:00", "2006-01-02T15:04", "2006-01-02T15Z07:00", "2006-01-02T15",
      "2006-01-02T", "2006-01T", "2006T"] ∧ parseDateTimeLayoutsPrefix = "@" ∧
    parseTimeLayouts = ["15:04:05.000", "15:04:05", "15:04", "15"] ∧ parseTimeLayoutsPrefix = "@T" := by decide +kernel

/-- every layout a value can carry is one the parser tries: the precision tables and the parser tables
    list the same layouts -/
theorem every_layout_is_parsed :
    dateMap.map (·.1) = parseDateLayouts ∧ dateTimeMap.map (·.1) = parseDateTimeLayouts ∧
    timeMap.map (·.1) = parseTimeLayouts := by decide +kernel

/-- WIDENING A DATE TO A DATETIME KEEPS ITS PRECISION: the DateTime layout of a Date layout is that layout
    followed by `T` (the partial-DateTime form), it has the same implied precision, and every Date
    layout has one -/
theorem date_widening_keeps_precision :
    dateToDateTime.all (fun p => p.2 == p.1 ++ "T" &&
      impliedPrecision (goLayout p.1.toList) == impliedPrecision (goLayout p.2.toList)) = true ∧
    dateToDateTime.map (·.1) = parseDateLayouts ∧
    dateToDateTime.all (fun p => parseDateTimeLayouts.contains p.2) = true := by decide +kernel

/-! ### conversions on whole expressions (the assembled evaluator, FP.Model.Eval) -/

section Expr
open FP.Model.Eval

/-- the eight conversion targets the assembled evaluator carries, with their function names -/
def convNames : List (Ty × String × String) :=
  [(.string, "toString", "convertsToString"), (.integer, "toInteger", "convertsToInteger"),
   (.decimal, "toDecimal", "convertsToDecimal"), (.boolean, "toBoolean", "convertsToBoolean"),
   (.date, "toDate", "convertsToDate"), (.dateTime, "toDateTime", "convertsToDateTime"),
   (.time, "toTime", "convertsToTime"), (.quantity, "toQuantity", "convertsToQuantity")]

/-- `convertsToT()` is true exactly when `toT()` is non-empty: on the assembled evaluator, for every
    single System item — Boolean, Integer, Decimal, (UTF-8) String, Quantity, Date, DateTime, Time -/
theorem expr_converts_iff_nonempty (env : Env) (t : Ty) (to conv : String) (h : (t, to, conv) ∈ convNames)
    (v : Val) (cv : CV) (hv : toCV v = some cv) :
    eval env (.fn conv .argNil) [v] = .ok [.bool (convertsTo t cv)] ∧
    (convertsTo t cv = true ↔ ∃ r, convTo t cv = .ok (some r)) := by
  have hc : cv ≠ .complex := by
    cases v <;> simp only [toCV, Option.map_eq_some_iff, Option.some.injEq, reduceCtorEq] at hv
    case str | quantity => obtain ⟨_, _, rfl⟩ := hv; nofun
    all_goals subst hv; nofun
  refine ⟨?_, converts_iff_nonempty t cv hc⟩
  rw [(eval_conversions env [v] _ h).2]
  simp [convertsOn, hv]

/-- a conversion function on an empty input is empty, on more than one item an error -/
theorem expr_conversion_cardinality (env : Env) (t : Ty) (to conv : String) (h : (t, to, conv) ∈ convNames) :
    eval env (.fn to .argNil) [] = .ok [] ∧ eval env (.fn conv .argNil) [] = .ok [] ∧
    ∀ a b r, eval env (.fn to .argNil) (a :: b :: r) = .err "not-singleton" := by
  refine ⟨?_, ?_, fun a b r => ?_⟩
  · rw [(eval_conversions env [] _ h).1]; rfl
  · rw [(eval_conversions env [] _ h).2]; rfl
  · rw [(eval_conversions env (a :: b :: r) _ h).1]; rfl

end Expr

end FP.Props.C13
