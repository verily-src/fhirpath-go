/-
  FP.Lemmas.Printer — the two printers of FP.Model.Printer as instances of the calculus of FP.Lemmas.Syntax (same
  namespace).  In this order: the trees `Core` with their atoms and invocations; the minimal rendering as an operand
  at every level (`printAt_operand`) and its length (`depth_le_length`); the trees `WfE` with function calls nested
  anywhere, their induction, and that they are core trees; the fully parenthesised rendering as a term (`printFull_term`).
-/
import FP.Lemmas.Syntax
namespace FP.Lemmas.Syntax
open FP.Model.Syntax

/-- an argument list (not empty) whose minimal rendering `e₁ , e₂ , …` is read back by the argument
    parser, with nesting fuel from its depth; stated on the parser so that `Inv`/`Atom`/`Core` stay
    plain inductive predicates — `core_of_wf` shows that every list of core trees has it -/
def ArgsOK (as : Ex) : Prop :=
  as ≠ .argNil ∧ depth as ≤ (printArgs as).length + 1 ∧ printArgs as ≠ [] ∧ (∀ r, printArgs as ≠ .kw ")" :: r) ∧
  ∀ f k rest, 2 * depth as ≤ f → (printArgs as).length ≤ k →
    argsP (exprP f) k (printArgs as ++ .kw ")" :: rest) = some (as, .kw ")" :: rest)

inductive Inv : Ex → Prop where
  | member (n : String) : Inv (.member n)
  | this : Inv (.special "$this")
  | index : Inv (.special "$index")
  | total : Inv (.special "$total")
  | call0 (n : String) : Inv (.call n .argNil)
  | callArgs (n : String) (as : Ex) (h : ArgsOK as) : Inv (.call n as)

/-- terms that are a fixed token sequence, or an invocation -/
inductive Atom : Ex → Prop where
  | num (n : String) : Atom (.lit (.num n))
  | str (s : String) : Atom (.lit (.str s))
  | temporal (s : String) : Atom (.lit (.temporal s))
  | tt : Atom (.lit (.kw "true"))
  | ff : Atom (.lit (.kw "false"))
  | null : Atom (.lit (.kw "{}"))
  | qtyStr (n s : String) : Atom (.qty n (.str s))
  | qtyUnit (n u : String) (h : unitKeywords.contains u = true) : Atom (.qty n (.kw u))
  | ext (n : String) : Atom (.ext n)
  | inv (e : Ex) (h : Inv e) : Atom e

inductive Core : Ex → Prop where
  | atom (e : Ex) (h : Atom e) : Core e
  | bin (o : String) (l r : Ex) (ho : levelIdx o false < nLevels) (hl : Core l) (hr : Core r) : Core (.bin o l r)
  | typ (o : String) (e : Ex) (q : List String) (ho : levelIdx o true < nLevels) (hq : q ≠ []) (he : Core e) : Core (.typ o e q)
  | pol (s : String) (e : Ex) (hs : s = "+" ∨ s = "-") (he : Core e) : Core (.pol s e)
  | dot (e i : Ex) (he : Core e) (hi : Inv i) : Core (.dot e i)
  | idx (e i : Ex) (he : Core e) (hi : Core i) : Core (.idx e i)

theorem ArgsOK.argsR {as : Ex} (h : ArgsOK as) : ArgsR as (printArgs as) (2 * depth as) := by
  obtain ⟨_, _, hne, hcl, hp⟩ := h
  refine ⟨?_, hp⟩
  cases hA : printArgs as with
  | nil => exact absurd hA hne
  | cons a AS' => exact ⟨a, AS', rfl, fun e => hcl AS' (by rw [hA, e])⟩

theorem ArgsR.argsOK {as : Ex} (ha : ArgsR as (printArgs as) (2 * depth as)) (hne : as ≠ .argNil)
    (hd : depth as ≤ (printArgs as).length + 1) : ArgsOK as := by
  obtain ⟨a, AS', hA, hcl⟩ := ha.1
  refine ⟨hne, hd, by simp [hA], fun r e => hcl ?_, ha.2⟩
  rw [hA] at e
  exact (List.cons.inj e).1

/-- the fuel `2 * depth i - 2` (truncated): for a call what `ArgsOK` asks for its arguments, `2 * depth as`; else 0 -/
theorem invR_of_inv {i : Ex} (hi : Inv i) (c : Nat) : InvR i (printAt c i) (2 * depth i - 2) := by
  cases hi with
  | member n =>
    intro f rest _ hrest
    simp only [printAt, List.cons_append, List.nil_append, invocationP, isIdentTok]
    split
    · exact absurd rfl (hrest _)
    · exact absurd rfl (hrest _)
    · rfl
  | callArgs n as h =>
    simp only [printAt]
    exact (ArgsR.call n h.argsR).mono (by simp only [depth]; omega)
  | _ => intro f rest _ _; simp [printAt, printArgs, invocationP, isIdentTok]

theorem termR_of_atom {a : Ex} (ha : Atom a) (c : Nat) : TermR a (printAt c a) (2 * depth a - 2) := by
  intro f rest hf ⟨h1, h2, h3⟩
  cases ha with
  | num n =>
    simp only [printAt, List.cons_append, List.nil_append, termP]
    split
    · rename_i u r; simpa using h3 u r rfl
    · exact absurd rfl (h2 _ _)
    · rfl
  | qtyUnit n u h =>
    have hu : u ∈ unitKeywords := by simpa using h
    simp [printAt, termP, hu]
  | ext n => simp [printAt, termP, isIdentTok]
  | inv _ hi =>
    have := invR_of_inv hi c f rest hf h1
    -- no invocation starts with a token `termP` has an arm for (`simp` decides `"$this" ≠ "("` …): it falls through
    cases hi with
    | call0 n => simpa [printAt, printArgs, termP] using this
    | _ => simpa [printAt, termP] using this
  | _ => simp [printAt, termP]

/-- the step of `printAt_operand`: a rendering at the tree's own level i serves in a context of level c as it stands
    when c ≤ i, in parentheses otherwise; these cost the unit of fuel that `hn` leaves -/
theorem OperandR.in_context (hT : tableOK = true) {i : Nat} {t : Ex} {X : List Tok} {n : Nat} (h : OperandR i t X n)
    (hn : n + 1 ≤ 2 * depth t) (c : Nat) (hc : c ≤ nLevels + 2) :
    OperandR c t (paren (decide (i < c)) X) (2 * depth t) := by
  by_cases hlt : i < c
  · simp only [hlt, decide_true]
    exact (((h.le (Nat.zero_le i)).expr hT).wrap.operand.le hc).mono hn
  · simp only [hlt, decide_false]
    exact (h.le (by omega)).mono (by omega)

theorem printAt_operand (hT : tableOK = true) {t : Ex} (h : Core t) :
    ∀ c, c ≤ nLevels + 2 → OperandR c t (printAt c t) (2 * depth t) := by
  induction h with
  | atom e ha =>
    intro c hc
    exact ((termR_of_atom ha c).operand.le hc).mono (by omega)
  -- the five operator cases are alike: the operator's lemma at the tree's own level, from the operands at the levels
  -- `printAt` prints them at, then `in_context`
  | bin o l r ho _ _ ihl ihr =>
    intro c hc
    rw [printAt]
    exact (OperandR.bin hT ho (ihl _ (by omega)) (ihr _ (by omega))).in_context hT (by simp only [depth]; omega) c hc
  | typ o e q ho hq _ ih =>
    intro c hc
    rw [printAt]
    exact (OperandR.typ hT ho hq (ih _ (by omega))).in_context hT (by simp only [depth]; omega) c hc
  | pol s e hs _ ih =>
    intro c hc
    rw [printAt]
    exact (OperandR.pol hs (ih _ (by omega))).in_context hT (by simp only [depth]; omega) c hc
  | dot e i _ hi ih =>
    intro c hc
    rw [printAt]
    exact (OperandR.dot (ih _ (by omega)) (invR_of_inv hi _)).in_context hT (by simp only [depth]; omega) c hc
  | idx e i _ _ ihe ihi =>
    intro c hc
    rw [printAt]
    exact (OperandR.idx (ihe _ (by omega)) ((ihi 0 (by omega)).expr hT)).in_context hT (by simp only [depth]; omega) c hc

theorem le_paren_length {n : Nat} {ts : List Tok} (b : Bool) (h : n ≤ ts.length) : n ≤ (paren b ts).length := by
  unfold paren
  split
  · simp; omega
  · exact h

theorem inv_depth_le_length {i : Ex} (hi : Inv i) (c : Nat) : depth i ≤ (printAt c i).length := by
  cases hi with
  | callArgs n as h => have := h.2.1; simp only [depth, printAt, List.length_cons, List.length_append]; omega
  | _ => simp [depth, printAt, printArgs]

theorem depth_le_length {t : Ex} (h : Core t) : ∀ c, depth t ≤ (printAt c t).length := by
  induction h with
  | atom e ha =>
    intro c
    cases ha with
    | inv _ hi => exact inv_depth_le_length hi c
    | _ => simp [depth, printAt]
  -- the five operator cases are alike: the operands at the levels `printAt` prints them at, one token more, and
  -- parentheses only add (`le_paren_length`)
  | bin o l r _ _ _ ihl ihr =>
    intro c
    have h1 := ihl (levelIdx o false); have h2 := ihr (levelIdx o false + 1)
    rw [printAt]
    apply le_paren_length
    simp only [depth, List.length_append, List.length_cons]; omega
  | typ o e q _ _ _ ih =>
    intro c
    have h1 := ih (levelIdx o true)
    rw [printAt]
    apply le_paren_length
    simp only [depth, List.length_append, List.length_cons]; omega
  | pol s e _ _ ih =>
    intro c
    have h1 := ih nLevels
    rw [printAt]
    apply le_paren_length
    simp only [depth, List.length_cons]; omega
  | dot e i _ hi ih =>
    intro c
    have h1 := ih (nLevels + 1); have h2 := inv_depth_le_length hi (nLevels + 2)
    rw [printAt]
    apply le_paren_length
    simp only [depth, List.length_append, List.length_cons]; omega
  | idx e i _ _ ihe ihi =>
    intro c
    have h1 := ihe (nLevels + 1); have h2 := ihi 0
    rw [printAt]
    apply le_paren_length
    simp only [depth, List.length_append, List.length_cons, List.length_nil]; omega

theorem exprR_of_core (hT : tableOK = true) {t : Ex} (h : Core t) : ExprR t (printAt 0 t) (2 * depth t) :=
  (printAt_operand hT h 0 (Nat.zero_le _)).expr hT

mutual
  /-- the trees of the full-rendering theorem: the core trees, and function calls whose arguments
      are such trees (anywhere a term or an invocation may stand) -/
  def WfE : Ex → Prop
    | .bin o l r => levelIdx o false < nLevels ∧ WfE l ∧ WfE r
    | .typ o e q => levelIdx o true < nLevels ∧ q ≠ [] ∧ WfE e
    | .pol s e => (s = "+" ∨ s = "-") ∧ WfE e
    | .dot e i => WfE e ∧ WfI i
    | .idx e i => WfE e ∧ WfE i
    | .call _ as => WfA as
    | .argNil => False
    | .argCons _ _ => False
    | .lit t => Atom (.lit t)
    | .qty n u => Atom (.qty n u)
    | .ext n => True
    | .special s => Inv (.special s)
    | .member _ => True
  def WfI : Ex → Prop
    | .call _ as => WfA as
    | .special s => Inv (.special s)
    | .member _ => True
    | _ => False
  def WfA : Ex → Prop
    | .argNil => True
    | .argCons e r => WfE e ∧ WfA r
    | _ => False
end

/-- P goes with `WfE`, Q with `WfI`, R with `WfA` of a list that is not empty.  The three predicates unfold
    definitionally at a constructor, to `False` where it is not listed: hence the `False.elim`s and the projections of `h` -/
theorem wf_induction {P Q R : Ex → Prop}
    (leaf : ∀ a, Atom a → (∀ n as, a = .call n as → as = .argNil) → P a)
    (leafI : ∀ i, Inv i → (∀ n as, i = .call n as → as = .argNil) → Q i)
    (call : ∀ n as, R as → P (.call n as) ∧ Q (.call n as))
    (one : ∀ e, P e → R (.argCons e .argNil))
    (cons : ∀ e r, r ≠ .argNil → P e → R r → R (.argCons e r))
    (dot : ∀ e i, P e → Q i → P (.dot e i))
    (idx : ∀ e i, P e → P i → P (.idx e i))
    (pol : ∀ s e, s = "+" ∨ s = "-" → P e → P (.pol s e))
    (bin : ∀ o l r, levelIdx o false < nLevels → P l → P r → P (.bin o l r))
    (typ : ∀ o e q, levelIdx o true < nLevels → q ≠ [] → P e → P (.typ o e q)) :
    ∀ t : Ex, (WfE t → P t) ∧ (WfI t → Q t) ∧ (WfA t → t ≠ .argNil → R t) := by
  intro t
  induction t with
  | lit tk => exact ⟨fun h => leaf _ h nofun, False.elim, False.elim⟩
  | qty n u => exact ⟨fun h => leaf _ h nofun, False.elim, False.elim⟩
  | ext n => exact ⟨fun _ => leaf _ (.ext n) nofun, False.elim, False.elim⟩
  | special s => exact ⟨fun h => leaf _ (.inv _ h) nofun, fun h => leafI _ h nofun, False.elim⟩
  | member n => exact ⟨fun _ => leaf _ (.inv _ (.member n)) nofun, fun _ => leafI _ (.member n) nofun, False.elim⟩
  | call n as ih =>
    have hc : WfA as → P (.call n as) ∧ Q (.call n as) := by
      intro h
      by_cases hnil : as = .argNil
      · subst hnil
        have h0 : ∀ n' as, Ex.call n .argNil = .call n' as → as = .argNil := by intro _ _ e; cases e; rfl
        exact ⟨leaf _ (.inv _ (.call0 n)) h0, leafI _ (.call0 n) h0⟩
      · exact call n as (ih.2.2 h hnil)
    exact ⟨fun h => (hc h).1, fun h => (hc h).2, False.elim⟩
  | argNil => exact ⟨False.elim, False.elim, fun _ h => absurd rfl h⟩
  | argCons e r ihe ihr =>
    refine ⟨False.elim, False.elim, fun h _ => ?_⟩
    by_cases hnil : r = .argNil
    · subst hnil; exact one e (ihe.1 h.1)
    · exact cons e r hnil (ihe.1 h.1) (ihr.2.2 h.2 hnil)
  | dot e i ihe ihi => exact ⟨fun h => dot _ _ (ihe.1 h.1) (ihi.2.1 h.2), False.elim, False.elim⟩
  | idx e i ihe ihi => exact ⟨fun h => idx _ _ (ihe.1 h.1) (ihi.1 h.2), False.elim, False.elim⟩
  | pol s e ih => exact ⟨fun h => pol _ _ h.1 (ih.1 h.2), False.elim, False.elim⟩
  | bin o l r ihl ihr => exact ⟨fun h => bin _ _ _ h.1 (ihl.1 h.2.1) (ihr.1 h.2.2), False.elim, False.elim⟩
  | typ o e q ih => exact ⟨fun h => typ _ _ _ h.1 h.2.1 (ih.1 h.2.2), False.elim, False.elim⟩

theorem printArgs_cons (e : Ex) {r : Ex} (h : r ≠ .argNil) : printArgs (.argCons e r) = printAt 0 e ++ .kw "," :: printArgs r := by
  cases r <;> simp_all [printArgs]

theorem printFullArgs_cons (e : Ex) {r : Ex} (h : r ≠ .argNil) :
    printFullArgs (.argCons e r) = printFull e ++ .kw "," :: printFullArgs r := by
  cases r <;> simp_all [printFullArgs]

theorem core_of_wf (hT : tableOK = true) : ∀ t : Ex,
    (WfE t → Core t) ∧ (WfI t → Inv t) ∧ (WfA t → t ≠ .argNil → ArgsOK t) := by
  refine wf_induction (fun a ha _ => .atom a ha) (fun i hi _ => hi)
    (fun n as h => ⟨.atom _ (.inv _ (.callArgs n as h)), .callArgs n as h⟩) ?one ?cons
    Core.dot Core.idx Core.pol Core.bin Core.typ
  case one =>
    intro e he
    have hlen := depth_le_length he 0
    have hd : 1 ≤ depth e := by cases e <;> simp [depth]
    have ha := (ExprR.args_one (exprR_of_core hT he)).mono (m := 2 * depth (.argCons e .argNil)) (by simp only [depth]; omega)
    exact ArgsR.argsOK (by simpa only [printArgs] using ha) (by simp) (by simp only [depth, printArgs]; omega)
  case cons =>
    intro e r hnil he hr
    have hlen := depth_le_length he 0
    have hrd := hr.2.1
    have ha := (ExprR.args_cons (exprR_of_core hT he) hr.argsR).mono (m := 2 * depth (.argCons e r)) (by simp only [depth]; omega)
    rw [← printArgs_cons e hnil] at ha
    exact ha.argsOK (by simp) (by simp only [depth, printArgs_cons e hnil, List.length_append, List.length_cons]; omega)

theorem printFull_atom {a : Ex} (h : Atom a) (hnc : ∀ n as, a = .call n as → as = .argNil) : printFull a = printAt 0 a := by
  cases h with
  | inv _ hi =>
    cases hi with
    | callArgs n as h => exact absurd (hnc n as rfl) h.1
    | _ => simp [printFull, printFullArgs, printAt, printArgs]
  | _ => simp [printFull, printAt]

/-- fuel 2·length: parentheses cost one unit and add two
    tokens, and `parseProg` gives 2·length + 2, so no bound on the tree is needed -/
theorem printFull_term (hT : tableOK = true) : ∀ t : Ex,
    (WfE t → TermR t (printFull t) (2 * (printFull t).length)) ∧
    (WfI t → InvR t (printFull t) (2 * (printFull t).length)) ∧
    (WfA t → t ≠ .argNil → ArgsR t (printFullArgs t) (2 * (printFullArgs t).length + 1)) := by
  have wrap : ∀ {i : Nat} {t : Ex} {X : List Tok} {n : Nat}, OperandR i t X n → n ≤ 2 * X.length →
      TermR t (Tok.kw "(" :: X ++ [Tok.kw ")"]) (2 * (Tok.kw "(" :: X ++ [Tok.kw ")"]).length) := fun h hn =>
    ((h.le (Nat.zero_le _)).expr hT).wrap.mono (by simp only [List.length_append, List.length_cons, List.length_nil]; omega)
  refine wf_induction ?leaf ?leafI ?call ?one ?cons ?dot ?idx ?pol ?bin ?typ
  case leaf =>
    intro a ha hnc
    have := depth_le_length (.atom a ha) 0
    rw [printFull_atom ha hnc]
    exact (termR_of_atom ha 0).mono (by omega)
  case leafI =>
    intro i hi hnc
    have := depth_le_length (.atom i (.inv i hi)) 0
    rw [printFull_atom (.inv i hi) hnc]
    exact (invR_of_inv hi 0).mono (by omega)
  case call =>
    intro n as ha
    have hi : InvR (.call n as) (printFull (.call n as)) (2 * (printFull (.call n as)).length) := by
      simp only [printFull]
      exact (ArgsR.call n ha).mono (by simp only [List.length_append, List.length_cons, List.length_nil]; omega)
    exact ⟨fun f rest hf hr => by simpa [printFull, termP] using hi f rest hf hr.1, hi⟩
  case one =>
    intro e he
    simp only [printFullArgs]
    exact ExprR.args_one (he.expr hT)
  case cons =>
    intro e r hnil he hr
    rw [printFullArgs_cons e hnil]
    exact (ExprR.args_cons (he.expr hT) hr).mono
      (by simp only [List.length_append, List.length_cons]; omega)
  -- the five operator cases are alike: the operands are terms, hence operands of any level; the operator's lemma;
  -- parentheses
  case dot =>
    intro e i he hi
    simp only [printFull]
    exact wrap (OperandR.dot (he.operand.le (by omega)) hi)
      (by simp only [List.length_append, List.length_cons]; omega)
  case idx =>
    intro e i he hi
    simp only [printFull]
    exact wrap (OperandR.idx (he.operand.le (by omega)) (hi.expr hT))
      (by simp only [List.length_append, List.length_cons, List.length_nil]; omega)
  case pol =>
    intro s e hs he
    simp only [printFull]
    exact wrap (OperandR.pol hs (he.operand.le (by omega)))
      (by simp only [List.length_cons]; omega)
  case bin =>
    intro o l r ho hl hr
    simp only [printFull]
    exact wrap (OperandR.bin hT ho (hl.operand.le (by omega)) (hr.operand.le (by omega)))
      (by simp only [List.length_append, List.length_cons]; omega)
  case typ =>
    intro o e q ho hq he
    simp only [printFull]
    exact wrap (OperandR.typ hT ho hq (he.operand.le (by omega)))
      (by simp only [List.length_append, List.length_cons]; omega)

end FP.Lemmas.Syntax
