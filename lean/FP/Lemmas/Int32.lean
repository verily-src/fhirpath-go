/- FP.Lemmas.Int32 (declared into `FP.Lemmas`) — the int32 primitives translated from Go (`FP.Gen.IntArith`): `add`,
   `sub`, `mul` are total, `floorDiv` and `mod` trap on a zero divisor only; on operands of the 32-bit range each is
   the exact result or the overflow error — `add`, `sub`, `mul` through the one shape they end in (`int32_checked`).
   With two facts about `Int` these need: `sign_mul`, `neg_one_pow`. -/
import FP.Gen.IntArith
namespace FP.Lemmas
open FP.Go FP.Gen.IntArith

theorem gand_some_some (a b : Bool) : gand (some a) (some b) = some (a && b) := by
  cases a <;> rfl

theorem wrap32_id {x : Int} (h : inInt32 x) : wrap32 x = x := by
  unfold inInt32 minInt32 maxInt32 at h; unfold wrap32; omega

theorem wrap32_in (x : Int) : inInt32 (wrap32 x) := by
  unfold inInt32 minInt32 maxInt32 wrap32; omega

/-- the shape `Add`, `Sub`, `Mul` end in: the wrapped result is kept when the overflow test `t` passes -/
theorem int32_checked (x : Int) (t : Bool) (h : t = true ↔ inInt32 x) :
    (if t then some (Except.ok (wrap32 x)) else some (Except.error "ErrIntOverflow") : G (Except String Int)) =
      some (if inInt32 x then .ok x else .error "ErrIntOverflow") := by
  by_cases hx : inInt32 x
  · rw [if_pos (h.mpr hx), if_pos hx, wrap32_id hx]
  · rw [if_neg (fun ht => hx (h.mp ht)), if_neg hx]

/-! `Add`, `Sub` test that the wrapped result moved the way the second operand points -/

theorem add_spec (i j : Int) (hi : inInt32 i) (hj : inInt32 j) :
    add i j = some (if inInt32 (i + j) then .ok (i + j) else .error "ErrIntOverflow") :=
  int32_checked (i + j) _ (by rw [beq_iff_eq, decide_eq_decide]; unfold inInt32 minInt32 maxInt32 wrap32 at *; omega)

theorem sub_spec (i j : Int) (hi : inInt32 i) (hj : inInt32 j) :
    sub i j = some (if inInt32 (i - j) then .ok (i - j) else .error "ErrIntOverflow") :=
  int32_checked (i - j) _ (by rw [beq_iff_eq, decide_eq_decide]; unfold inInt32 minInt32 maxInt32 wrap32 at *; omega)

theorem add_some (a b : Int) : (add a b).isSome := by unfold add; dsimp only; split <;> rfl
theorem sub_some (a b : Int) : (sub a b).isSome := by unfold sub; dsimp only; split <;> rfl

theorem natAbs_tmod_lt (a : Int) {b : Int} (hb : b ≠ 0) : (a.tmod b).natAbs < b.natAbs := by
  rw [Int.natAbs_tmod]; exact Nat.mod_lt _ (by omega)

theorem tmod_in {a b : Int} (hb : inInt32 b) (hb0 : b ≠ 0) : inInt32 (a.tmod b) := by
  have := natAbs_tmod_lt a hb0
  unfold inInt32 minInt32 maxInt32 at *; omega

theorem tdiv_in {a b : Int} (ha : inInt32 a) (hb0 : b ≠ 0) (hov : ¬(a = minInt32 ∧ b = -1)) :
    inInt32 (a.tdiv b) := by
  have h1 := Int.natAbs_tdiv_le_natAbs a b
  have h2 := Int.mul_tdiv_add_tmod a b
  have h3 := natAbs_tmod_lt a hb0
  unfold inInt32 minInt32 maxInt32 at *
  by_cases hq : a.tdiv b = 2147483648
  · rw [hq] at h2; exfalso; omega
  · omega

theorem floorDiv_spec {a b : Int} (ha : inInt32 a) (hb0 : b ≠ 0) (hov : ¬(a = minInt32 ∧ b = -1)) :
    floorDiv a b = some (a.tdiv b) := by
  simp [floorDiv, gdiv32, hb0, wrap32_id (tdiv_in ha hb0 hov)]

theorem mod_spec (a : Int) {b : Int} (hb : inInt32 b) (hb0 : b ≠ 0) : mod a b = some (a.tmod b) := by
  simp [mod, gmod32, hb0, wrap32_id (tmod_in hb hb0)]

theorem floorDiv_eq_none (a b : Int) : floorDiv a b = none ↔ b = 0 := by simp [floorDiv, gdiv32]
theorem intMod_eq_none (a b : Int) : mod a b = none ↔ b = 0 := by simp [mod, gmod32]

theorem sign_mul (i j : Int) (hi0 : i ≠ 0) (hj0 : j ≠ 0) : (i * j < 0 ↔ ¬(i < 0 ↔ j < 0)) := by
  rcases Int.lt_trichotomy i 0 with hi | hi | hi
  · rcases Int.lt_trichotomy j 0 with hj | hj | hj
    · have := Int.mul_pos_of_neg_of_neg hi hj; omega
    · exact absurd hj hj0
    · have := Int.mul_neg_of_neg_of_pos hi hj; omega
  · exact absurd hi hi0
  · rcases Int.lt_trichotomy j 0 with hj | hj | hj
    · have := Int.mul_neg_of_pos_of_neg hi hj; omega
    · exact absurd hj hj0
    · have := Int.mul_pos hi hj; omega

/-- `Mul`'s overflow test: the wrapped product `r` has the sign of the true product and `r / j`,
    computed in int32, gives `i` back — exactly when the true product fits in 32 bits. -/
theorem mul_test (i j : Int) (hi : inInt32 i) (hj : inInt32 j) (hi0 : i ≠ 0) (hj0 : j ≠ 0) :
    ((wrap32 (i * j) < 0 ↔ ¬(i < 0 ↔ j < 0)) ∧ wrap32 ((wrap32 (i * j)).tdiv j) = i) ↔ inInt32 (i * j) := by
  constructor
  · intro ⟨hsign, hq⟩
    -- `r = j * q + m` with `|m| < |j|` and `|q| ≤ |r|`; the products are atoms for `omega`
    have hr := wrap32_in (i * j)
    have hqm := Int.mul_tdiv_add_tmod (wrap32 (i * j)) j
    have hm := natAbs_tmod_lt (wrap32 (i * j)) hj0
    have hqr := Int.natAbs_tdiv_le_natAbs (wrap32 (i * j)) j
    have hw : wrap32 (i * j) = (i * j + 2147483648) % 4294967296 - 2147483648 := rfl
    generalize wrap32 (i * j) = r at *
    generalize r.tdiv j = q at *
    generalize r.tmod j = m at *
    unfold inInt32 minInt32 maxInt32 at *
    by_cases hqi : q = i
    · -- the quotient did not wrap: `r - i * j = m` is a multiple of 2^32 below `|j|`, so it is 0
      subst hqi; rw [Int.mul_comm] at hqm; omega
    · -- it wrapped: `q = 2^31`, hence `r = -2^31`, `j = -1`, `i = -2^31`, and the sign test fails
      unfold wrap32 at hq
      have : q = 2147483648 := by omega
      subst this
      have : j = -1 := by omega
      subst this
      omega
  · intro h
    rw [wrap32_id h, Int.mul_tdiv_cancel i hj0, wrap32_id hi]
    exact ⟨sign_mul i j hi0 hj0, rfl⟩

theorem mul_eq (i j : Int) (hi0 : i ≠ 0) (hj0 : j ≠ 0) :
    mul i j = if (decide (wrap32 (i * j) < 0) == !(decide (i < 0) == decide (j < 0))) &&
        decide (wrap32 ((wrap32 (i * j)).tdiv j) = i)
      then some (.ok (wrap32 (i * j))) else some (.error "ErrIntOverflow") := by
  simp [mul, hi0, hj0, gdiv32, gand_some_some]

theorem mul_spec (i j : Int) (hi : inInt32 i) (hj : inInt32 j) :
    mul i j = some (if inInt32 (i * j) then .ok (i * j) else .error "ErrIntOverflow") := by
  by_cases hi0 : i = 0
  · subst hi0; simp [mul, inInt32, minInt32, maxInt32]
  by_cases hj0 : j = 0
  · subst hj0; simp [mul, inInt32, minInt32, maxInt32]
  rw [mul_eq i j hi0 hj0]
  exact int32_checked (i * j) _ (by
    rw [← mul_test i j hi hj hi0 hj0, Bool.and_eq_true, decide_eq_true_eq, beq_iff_eq, Bool.beq_eq_decide_eq, ← decide_not,
      decide_eq_decide, decide_eq_decide])

theorem mul_some (a b : Int) : (mul a b).isSome := by
  by_cases ha : a = 0
  · simp [mul, ha]
  by_cases hb : b = 0
  · simp [mul, hb]
  rw [mul_eq a b ha hb]; split <;> rfl

theorem neg_one_pow (n : Nat) : (-1 : Int) ^ n = if n % 2 = 0 then 1 else -1 := by
  rw [Int.neg_pow, Int.one_pow, Int.mul_one]
  rcases Nat.mod_two_eq_zero_or_one n with h | h <;> simp [h]

end FP.Lemmas
