/- FP.Lemmas.Res — `Res.bind` on each outcome, and when a `bind` / `if` / `ofOption` is `.panic`.  The two models
   written with `do` (`boolExpr`, `notFn`) are brought to `.bind` by `monad_bind`: one spelling to have lemmas about. -/
import FP.Basic
namespace FP.Res
variable {α β : Type}

@[simp] theorem ok_bind (a : α) (f : α → Res β) : (ok a).bind f = f a := rfl
@[simp] theorem err_bind (e : String) (f : α → Res β) : (err e : Res α).bind f = err e := rfl
@[simp] theorem panic_bind (f : α → Res β) : (panic : Res α).bind f = panic := rfl

@[simp] theorem bind_eq_panic (r : Res α) (f : α → Res β) :
    r.bind f = panic ↔ r = panic ∨ ∃ a, r = ok a ∧ f a = panic := by
  cases r <;> simp

theorem monad_bind (r : Res α) (f : α → Res β) : (r >>= f) = r.bind f := rfl

@[simp] theorem ite_eq_panic (c : Prop) [Decidable c] (a b : Res α) :
    (if c then a else b) = panic ↔ (c ∧ a = panic) ∨ (¬c ∧ b = panic) := by
  split <;> simp [*]

@[simp] theorem ofOption_eq_panic (o : Option α) : ofOption o = panic ↔ o = none := by
  cases o <;> simp [ofOption]

theorem bind_ok_inv {r : Res α} {f : α → β} {y : β} (h : (r.bind fun w => .ok (f w)) = .ok y) :
    ∃ w, r = .ok w ∧ y = f w := by
  cases r with
  | ok w => exact ⟨w, rfl, (Res.ok.inj h).symm⟩
  | err e => cases h
  | panic => cases h

end FP.Res
