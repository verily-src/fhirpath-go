/- FP.Lemmas.Bool — the regenerated three-valued tables (FP.Gen.Bool3) never index out of range. -/
import FP.Model.Bool
namespace FP.Lemmas
open FP.Go FP.Model FP.Gen.Bool3

theorem table_isSome (op : BoolOp) (l r : List Bool) : (table op l r).isSome := by
  -- the code tests `len == 1` and `len > 0` before it indexes; for a list of two or more items `simp` cannot
  -- decide these tests on `n + 1 + 1` by itself
  have len2_ne_one : ∀ n : Nat, ((n : Int) + 1 + 1 = 1) = False := by intro n; simp; omega
  have len2_pos : ∀ n : Nat, (0 < (n : Int) + 1 + 1) = True := by intro n; simp; omega
  cases op <;> rcases l with _ | ⟨_ | _, _ | ⟨a', l⟩⟩ <;> rcases r with _ | ⟨_ | _, _ | ⟨b', r⟩⟩ <;>
    simp [table, evaluateAnd, evaluateOr, evaluateXor, evaluateImplies, gand, gor, len2_ne_one, len2_pos]

end FP.Lemmas
