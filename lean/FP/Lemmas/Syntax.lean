/-
  FP.Lemmas.Syntax — the parser model as a tower of levels 0 … nLevels+2: level c is an operand of level c+1, then
  the loop of level c (`Pc_eq_level`; at the polarity level: once the signs are read).  `OperandR c t X n`: the
  tokens X stand for the tree t wherever an operand of level c is read; each way of putting renderings together
  (a looser context, parentheses, an operator, a sign, a call) is a lemma about it.  The printers are instances:
  FP.Lemmas.Printer (same namespace).
  In this order: the `(op rhs)*` loop; the level table; the parsers by level; what may follow an operand (`Stop`,
  `Ends`); `OperandR` and its closure lemmas; the operators; whole programs; function calls with arguments.
-/
import FP.Model.Printer
namespace FP.Lemmas.Syntax
open FP.Model.Syntax

def NoTrigger (step : Step) (ts : List Tok) : Prop := ∀ o r, ts = .kw o :: r → step o = none

theorem loopG_stop {step : Step} {ts : List Tok} (h : NoTrigger step ts) (k : Nat) (left : Ex) :
    loopG step k left ts = some (left, ts) := by
  cases k
  all_goals
    unfold loopG
    split
    · simp [h _ _ rfl]
    · rfl

theorem loopB_stop {step : Step} {ts : List Tok} (h : NoTrigger step ts) (k : Nat) : loopB step k ts = some (id, ts) := by
  cases k
  all_goals
    unfold loopB
    split
    · simp [h _ _ rfl]
    · rfl

theorem loopG_cons {step : Step} {o : String} {rhs : Cont} (hstep : step o = some rhs) {r r' : List Tok} {build : Ex → Ex}
    (hr : rhs r = some (build, r')) (k : Nat) (left : Ex) :
    loopG step (k + 1) left (.kw o :: r) = loopG step k (build left) r' := by
  simp only [loopG, hstep, hr]

theorem loopG_mono {step : Step} {k k' : Nat} {left : Ex} {ts : List Tok} {res : Ex × List Tok}
    (h : loopG step k left ts = some res) (hk : k ≤ k') : loopG step k' left ts = some res := by
  induction k generalizing k' left ts with
  | zero =>
    have hn : NoTrigger step ts := by
      intro o r e; subst e
      cases hs : step o with
      | none => rfl
      | some rhs => simp [loopG, hs] at h
    rw [loopG_stop hn] at h ⊢; exact h
  | succ k ih =>
    by_cases hn : NoTrigger step ts
    · rw [loopG_stop hn] at h ⊢; exact h
    · simp only [NoTrigger, Classical.not_forall] at hn
      obtain ⟨o, r, rfl, hs⟩ := hn
      obtain ⟨rhs, hs⟩ := Option.ne_none_iff_exists'.mp hs
      obtain ⟨k'', rfl⟩ : ∃ k'', k' = k'' + 1 := ⟨k' - 1, by omega⟩
      cases hr : rhs r with
      | none => simp [loopG, hs, hr] at h
      | some p =>
        rw [loopG_cons hs hr] at h ⊢
        exact ih h (by omega)

def specialToks : List String := ["(", ")", "[", "]", ",", ".", "{", "}", "%"]

/-- what the round-trip proof needs from the level table: operators occur in one level only, and
    none of them is a bracket, separator or calendar keyword -/
def tableOK : Bool :=
  ((List.range nLevels).all fun i => (List.range nLevels).all fun j =>
      i == j || ((binLevels.getD i ([], false)).1.all fun o => !((binLevels.getD j ([], false)).1.contains o))) &&
  (binLevels.all fun l => l.1.all fun o => !(specialToks.contains o) && !(unitKeywords.contains o))

theorem ops_disjoint (h : tableOK = true) {i j : Nat} {li lj : List String × Bool} (hi : binLevels[i]? = some li)
    (hj : binLevels[j]? = some lj) {o : String} (hoi : li.1.contains o = true) (hoj : lj.1.contains o = true) : i = j := by
  simp only [tableOK, Bool.and_eq_true, List.all_eq_true, List.mem_range] at h
  have := h.1 i (List.getElem?_eq_some_iff.mp hi).1 j (List.getElem?_eq_some_iff.mp hj).1
  simp only [List.getD, hi, hj, Option.getD_some, Bool.or_eq_true, beq_iff_eq, List.all_eq_true, Bool.not_eq_true'] at this
  rcases this with h1 | h1
  · exact h1
  · rw [h1 o (by simpa using hoi)] at hoj; cases hoj

theorem op_not_special (h : tableOK = true) {i : Nat} {li : List String × Bool} (hi : binLevels[i]? = some li)
    {o : String} (ho : li.1.contains o = true) : specialToks.contains o = false ∧ unitKeywords.contains o = false := by
  simp only [tableOK, Bool.and_eq_true, List.all_eq_true] at h
  simpa using h.2 li (List.mem_of_getElem? hi) o (by simpa using ho)

theorem levelIdx_spec {o : String} {b : Bool} (h : levelIdx o b < nLevels) :
    ∃ lvl, binLevels[levelIdx o b]? = some lvl ∧ lvl.2 = b ∧ lvl.1.contains o = true := by
  unfold levelIdx at h ⊢
  generalize hf : binLevels.findIdx? (fun l => l.2 == b && l.1.contains o) = res at h ⊢
  cases res with
  | none => simp at h; omega
  | some i =>
    obtain ⟨hlt, hp, _⟩ := List.findIdx?_eq_some_iff_getElem.mp hf
    simp only [Bool.and_eq_true, beq_iff_eq] at hp
    exact ⟨binLevels[i], List.getElem?_eq_getElem hlt, hp.1, hp.2⟩

/-- level c of the table with all tighter levels, as parser and continuation, over the nested-expression parser
    `exprP f`; from nLevels on it is the polarity level -/
def Lc (f c : Nat) : Lv := levelsL (binLevels.drop c) (exprP f)

/-- the parser of level c: 0 … nLevels-1 the binary/type levels, nLevels polarity, +1 postfix, from +2 on term -/
def Pc (f c : Nat) : Parser :=
  if c ≤ nLevels then (Lc f c).parser
  else if c = nLevels + 1 then postfixP (exprP f) else termP (exprP f)

/-- the loops of level c and of all tighter levels, as a builder -/
def Cc (f c : Nat) : Cont := (Lc f c).cont

/-- the operators that continue an operand of level c, with the parsers of their right-hand sides -/
def stepL (f c : Nat) : Step :=
  match binLevels[c]? with
  | some lvl => levelStep lvl (Lc f (c + 1))
  | none => if c = nLevels + 1 then stepPostfix (exprP f) else fun _ => none

theorem exprP_succ (f : Nat) : exprP (f + 1) = Pc f 0 := by
  simp [exprP, Pc, Lc, levelsP]

theorem Lc_binary {f c : Nat} (hc : c < nLevels) :
    Lc f c = { parser := levelG (stepL f c) (Lc f (c + 1)).parser, cont := contThen (Lc f (c + 1)).cont (stepL f c) } := by
  simp only [Lc, stepL, List.getElem?_eq_getElem hc, List.drop_eq_getElem_cons hc, levelsL, List.foldr_cons]

theorem Pc_binary {f c : Nat} (hc : c < nLevels) : Pc f c = levelG (stepL f c) (Pc f (c + 1)) := by
  have h1 : c ≤ nLevels := Nat.le_of_lt hc
  have h2 : c + 1 ≤ nLevels := hc
  simp only [Pc, h1, h2, if_true, Lc_binary hc]

theorem Cc_binary {f c : Nat} (hc : c < nLevels) : Cc f c = contThen (Cc f (c + 1)) (stepL f c) := by
  simp only [Cc, Lc_binary hc]

theorem Pc_unary (f : Nat) : Pc f nLevels = unaryP (exprP f) := by
  simp [Pc, Lc, levelsL, nLevels]

theorem Pc_post (f : Nat) : Pc f (nLevels + 1) = postfixP (exprP f) := by
  have : ¬ (nLevels + 1 ≤ nLevels) := by omega
  simp [Pc, this]

theorem stepL_post (f : Nat) : stepL f (nLevels + 1) = stepPostfix (exprP f) := by
  have : binLevels[nLevels + 1]? = none := List.getElem?_eq_none (by simp [nLevels])
  simp [stepL, this]

theorem Cc_unary (f : Nat) : Cc f nLevels = fun ts => loopB (stepL f (nLevels + 1)) ts.length ts := by
  rw [stepL_post]; simp [Cc, Lc, levelsL, nLevels]

theorem Pc_term {f c : Nat} (hc : nLevels + 2 ≤ c) : Pc f c = termP (exprP f) := by
  have h1 : ¬ (c ≤ nLevels) := by omega
  have h2 : c ≠ nLevels + 1 := by omega
  simp [Pc, h1, h2]

theorem stepL_noloop {f c : Nat} (hc : c = nLevels ∨ nLevels + 2 ≤ c) : stepL f c = fun _ => none := by
  have h1 : binLevels[c]? = none := List.getElem?_eq_none (by simp only [nLevels] at hc; omega)
  have h2 : c ≠ nLevels + 1 := by omega
  simp only [stepL, h1, h2, if_false]

theorem stepL_op (f : Nat) {o : String} {b : Bool} (ho : levelIdx o b < nLevels) :
    stepL f (levelIdx o b) o =
      some (if b then typRhs o (Cc f (levelIdx o b + 1)) else binRhs o (Pc f (levelIdx o b + 1))) := by
  obtain ⟨lvl, hl, hb, hc⟩ := levelIdx_spec ho
  have hm : o ∈ lvl.1 := by simpa using hc
  -- the model's step speaks of `Lc f (c + 1)`: its parser is `Pc f (c + 1)` (through the `if`), its continuation `Cc`
  have hP : (Lc f (levelIdx o b + 1)).parser = Pc f (levelIdx o b + 1) := by
    have h2 : levelIdx o b + 1 ≤ nLevels := ho
    simp only [Pc, h2, if_true]
  cases b <;> simp [stepL, hl, levelStep, hb, stepBin, stepTyp, hm, hP, Cc]

theorem stepL_not_op {f c : Nat} {o : String} (hop : ∀ lvl, binLevels[c]? = some lvl → lvl.1.contains o = false)
    (hpost : c = nLevels + 1 → o ≠ "." ∧ o ≠ "[") : stepL f c o = none := by
  cases hl : binLevels[c]? with
  | some lvl =>
    have hm : ¬ o ∈ lvl.1 := by simpa using hop lvl hl
    simp only [stepL, hl, levelStep]
    split <;> simp [stepTyp, stepBin, hm]
  | none =>
    simp only [stepL, hl]
    split
    · rename_i hc; simp [stepPostfix, hpost hc]
    · rfl

theorem termP_sign_or_closer (e : Parser) (s : String) (hs : s = "+" ∨ s = "-" ∨ s = ")" ∨ s = "]" ∨ s = ",") (r : List Tok) :
    termP e (.kw s :: r) = none := by
  rcases hs with h | h | h | h | h <;> subst h <;> simp [termP, invocationP, isIdentTok]

theorem termP_nil (e : Parser) : termP e [] = none := by simp [termP, invocationP]

theorem levelG_none (next : Parser) (ts : List Tok) : levelG (fun _ => none) next ts = next ts := by
  unfold levelG
  cases next ts with
  | none => rfl
  | some p => exact loopG_stop (fun _ _ _ => rfl) _ _

def NoSign (ts : List Tok) : Prop := ∀ r, ts ≠ .kw "+" :: r ∧ ts ≠ .kw "-" :: r

theorem unaryP_noSign {e : Parser} {ts : List Tok} (h : NoSign ts) : unaryP e ts = postfixP e ts := by
  unfold unaryP
  rcases ts with _ | ⟨x, xs⟩
  · simp [unary, postfixP, levelG, termP_nil]
  · simp only [List.length_cons, unary]
    split
    · rename_i r heq; exact absurd heq (h r).1
    · rename_i r heq; exact absurd heq (h r).2
    · rfl

/-- `hs`: the polarity level first strips the signs; it is of the form `levelG …` only on tokens that start with none -/
theorem Pc_eq_level {f c : Nat} {ts : List Tok} (hs : c = nLevels → NoSign ts) :
    Pc f c ts = levelG (stepL f c) (Pc f (c + 1)) ts := by
  by_cases h1 : c < nLevels
  · rw [Pc_binary h1]
  · by_cases h2 : c = nLevels + 1
    · subst h2
      rw [Pc_post, stepL_post, Pc_term (Nat.le_refl _)]
      rfl
    · have hc : c = nLevels ∨ nLevels + 2 ≤ c := by omega
      rw [stepL_noloop hc, levelG_none]
      rcases hc with hc | hc
      · subst hc
        rw [Pc_unary, Pc_post, unaryP_noSign (hs rfl)]
      · rw [Pc_term hc, Pc_term (Nat.le_succ_of_le hc)]

theorem Pc_of_next {f c : Nat} {ts r : List Tok} {x : Ex} {res : Ex × List Tok}
    (hn : Pc f (c + 1) ts = some (x, r)) (hl : loopG (stepL f c) r.length x r = some res) : Pc f c ts = some res := by
  have hs : c = nLevels → NoSign ts := by
    rintro rfl r'
    rw [Pc_post] at hn
    constructor <;> (rintro rfl; simp [postfixP, levelG, termP_sign_or_closer] at hn)
  rw [Pc_eq_level hs]
  simp only [levelG, hn, hl]

theorem Pc_none {f : Nat} {X : List Tok} (hterm : termP (exprP f) X = none) (hsign : NoSign X) (c : Nat) :
    Pc f c X = none := by
  -- downwards from the term level, d levels above c
  obtain ⟨d, hd⟩ : ∃ d, nLevels + 2 ≤ c + d := ⟨nLevels + 2, by omega⟩
  induction d generalizing c with
  | zero => rw [Pc_term (by omega)]; exact hterm
  | succ d ih =>
    rw [Pc_eq_level (fun _ => hsign)]
    simp only [levelG, ih (c + 1) (by omega)]

/-- the rest cannot extend an expression of level ≥ c: nothing, a closing bracket or separator, or
    an operator of a looser level -/
def Stop (c : Nat) (rest : List Tok) : Prop :=
  rest = [] ∨ ∃ o r, rest = .kw o :: r ∧
    (o = ")" ∨ o = "]" ∨ o = "," ∨ ∃ i lvl, i < c ∧ binLevels[i]? = some lvl ∧ lvl.1.contains o = true)

theorem Stop.mono {c c' : Nat} {rest : List Tok} (h : Stop c rest) (hc : c ≤ c') : Stop c' rest :=
  h.imp_right fun ⟨o, r, h1, h2⟩ => ⟨o, r, h1, h2.imp_right (Or.imp_right (Or.imp_right
    fun ⟨i, lvl, hi, hl, ho⟩ => ⟨i, lvl, Nat.lt_of_lt_of_le hi hc, hl, ho⟩))⟩

theorem stop_closer (c : Nat) {o : String} (ho : o = ")" ∨ o = "]" ∨ o = ",") (rest : List Tok) : Stop c (.kw o :: rest) :=
  Or.inr ⟨o, rest, rfl, by simpa only [or_assoc] using (Or.inl ho : (o = ")" ∨ o = "]" ∨ o = ",") ∨ _)⟩

theorem stop_op {o : String} {b : Bool} (ho : levelIdx o b < nLevels) (r : List Tok) : Stop (levelIdx o b + 1) (.kw o :: r) := by
  obtain ⟨lvl, hlvl, _, hcont⟩ := levelIdx_spec ho
  exact Or.inr ⟨o, _, rfl, Or.inr (Or.inr (Or.inr ⟨levelIdx o b, lvl, Nat.lt_succ_self _, hlvl, hcont⟩))⟩

/-- what may follow a term without being absorbed by it -/
def RestOK (rest : List Tok) : Prop :=
  (∀ r, rest ≠ .kw "(" :: r) ∧ (∀ s r, rest ≠ .str s :: r) ∧ (∀ u r, rest = .kw u :: r → unitKeywords.contains u = false)

theorem restOK_nil : RestOK [] := by
  refine ⟨?_, ?_, ?_⟩
  · intro r h; cases h
  · intro s r h; cases h
  · intro u r h; cases h

theorem restOK_kw {o : String} (r : List Tok) (h1 : o ≠ "(") (h2 : unitKeywords.contains o = false) : RestOK (.kw o :: r) := by
  refine ⟨?_, ?_, ?_⟩
  · intro r' h; cases h; exact h1 rfl
  · intro s r' h; cases h
  · intro u r' h; cases h; exact h2

/-- the semantic form of `Stop c`: what the proofs use, and what `.`, `[` satisfy at the term level -/
def Ends (c : Nat) (rest : List Tok) : Prop :=
  RestOK rest ∧ ∀ f j, c ≤ j → NoTrigger (stepL f j) rest

theorem Ends.mono {c c' : Nat} {rest : List Tok} (h : Ends c rest) (hc : c ≤ c') : Ends c' rest :=
  ⟨h.1, fun f j hj => h.2 f j (Nat.le_trans hc hj)⟩

theorem Ends.of_succ {c : Nat} {rest : List Tok} (h : Ends (c + 1) rest) (hc : c = nLevels ∨ nLevels + 2 ≤ c) : Ends c rest :=
  ⟨h.1, fun f j hj => by
    rcases Nat.eq_or_lt_of_le hj with rfl | hlt
    · rw [stepL_noloop hc]; exact fun _ _ _ => rfl
    · exact h.2 f j hlt⟩

theorem Stop.head (hT : tableOK = true) {c : Nat} {o : String} {r : List Tok} (h : Stop c (.kw o :: r)) :
    o ≠ "." ∧ o ≠ "[" ∧ o ≠ "(" ∧ unitKeywords.contains o = false ∧
    (∀ j lvl, c ≤ j → binLevels[j]? = some lvl → lvl.1.contains o = false) := by
  obtain ⟨o', r', h1, h⟩ := h.resolve_left nofun
  cases h1
  have closer : specialToks.contains o = true → ∀ j lvl, c ≤ j → binLevels[j]? = some lvl → lvl.1.contains o = false := by
    intro hs j lvl _ hj
    cases hc : lvl.1.contains o with
    | false => rfl
    | true => rw [(op_not_special hT hj hc).1] at hs; cases hs
  obtain hcl | ⟨i, lvl, hi, hl, ho⟩ : (o = ")" ∨ o = "]" ∨ o = ",") ∨
      ∃ i lvl, i < c ∧ binLevels[i]? = some lvl ∧ lvl.1.contains o = true := by simpa only [or_assoc] using h
  · have hd : o ≠ "." ∧ o ≠ "[" ∧ o ≠ "(" ∧ unitKeywords.contains o = false ∧ specialToks.contains o = true := by
      rcases hcl with rfl | rfl | rfl <;> decide
    exact ⟨hd.1, hd.2.1, hd.2.2.1, hd.2.2.2.1, closer hd.2.2.2.2⟩
  · have hs := op_not_special hT hl ho
    have hne : ∀ x, specialToks.contains x = true → o ≠ x := by
      intro x hx e; subst e; rw [hs.1] at hx; cases hx
    refine ⟨hne "." (by decide), hne "[" (by decide), hne "(" (by decide), hs.2, ?_⟩
    intro j lvl' hcj hj
    cases hc : lvl'.1.contains o with
    | false => rfl
    | true => have := ops_disjoint hT hl hj ho hc; omega

theorem Stop.ends (hT : tableOK = true) {c : Nat} {rest : List Tok} (h : Stop c rest) : Ends c rest := by
  rcases rest with _ | ⟨t, r⟩
  · exact ⟨restOK_nil, fun _ _ _ _ _ h => nomatch h⟩
  · obtain ⟨o, r', e, -⟩ := h.resolve_left nofun
    cases e
    obtain ⟨h1, h2, h3, h4, h5⟩ := Stop.head hT h
    refine ⟨restOK_kw r h3 h4, fun f j hj o' r' e => ?_⟩
    cases e
    exact stepL_not_op (h5 j · hj) (fun _ => ⟨h1, h2⟩)

theorem RestOK.ends {rest : List Tok} (h : RestOK rest) : Ends (nLevels + 2) rest :=
  ⟨h, fun f j hj _ _ _ => by rw [stepL_noloop (Or.inr hj)]⟩

theorem Ends.not_dot {c : Nat} {rest : List Tok} (h : Ends c rest) (hc : c ≤ nLevels + 1) (r : List Tok) : rest ≠ .kw "." :: r := by
  intro e
  have := h.2 0 (nLevels + 1) hc "." r e
  simp [stepL_post, stepPostfix] at this

theorem Cc_ends {f c : Nat} {rest : List Tok} (hc : c ≤ nLevels) (hs : Ends c rest) : Cc f c rest = some (id, rest) := by
  obtain ⟨d, hd⟩ : ∃ d, c + d = nLevels := ⟨nLevels - c, by omega⟩
  induction d generalizing c with
  | zero =>
    obtain rfl : c = nLevels := by omega
    rw [Cc_unary]
    exact loopB_stop (hs.2 f _ (Nat.le_succ _)) _
  | succ d ih =>
    rw [Cc_binary (by omega)]
    simp only [contThen, ih (c := c + 1) (by omega) (hs.mono (Nat.le_succ _)) (by omega),
      loopB_stop (hs.2 f c (Nat.le_refl _)), Option.map_some]
    rfl

theorem Cc_stop (hT : tableOK = true) (f : Nat) (d c : Nat) (hc : c + d = nLevels) (rest : List Tok) (hs : Stop c rest) :
    Cc f c rest = some (id, rest) := Cc_ends (by omega) (hs.ends hT)

/-- n: the nesting fuel that reading X needs.  Stated with the outcome `res` of the loop from t, not with `(t, rest)`:
    so X can also be the LEFT operand of an operator of level c, whose loop goes on after it -/
def OperandR (c : Nat) (t : Ex) (X : List Tok) (n : Nat) : Prop :=
  ∀ f rest res, n ≤ f → Ends (c + 1) rest → loopG (stepL f c) rest.length t rest = some res →
    Pc f c (X ++ rest) = some res

/-- X is a rendering of t as a term (the level of atoms and parentheses), needing nesting fuel n -/
def TermR (t : Ex) (X : List Tok) (n : Nat) : Prop :=
  ∀ f rest, n ≤ f → RestOK rest → termP (exprP f) (X ++ rest) = some (t, rest)

/-- X is a rendering of t as a whole expression (level 0), needing nesting fuel n -/
def ExprR (t : Ex) (X : List Tok) (n : Nat) : Prop :=
  ∀ f rest, n ≤ f → Stop 0 rest → Pc f 0 (X ++ rest) = some (t, rest)

theorem OperandR.mono {c : Nat} {t : Ex} {X : List Tok} {n m : Nat} (h : OperandR c t X n) (hm : n ≤ m) : OperandR c t X m :=
  fun f rest res hf => h f rest res (Nat.le_trans hm hf)
theorem TermR.mono {t : Ex} {X : List Tok} {n m : Nat} (h : TermR t X n) (hm : n ≤ m) : TermR t X m :=
  fun f rest hf hr => h f rest (Nat.le_trans hm hf) hr
theorem ExprR.mono {t : Ex} {X : List Tok} {n m : Nat} (h : ExprR t X n) (hm : n ≤ m) : ExprR t X m :=
  fun f rest hf hr => h f rest (Nat.le_trans hm hf) hr

theorem OperandR.parse {c : Nat} {t : Ex} {X : List Tok} {n f : Nat} {rest : List Tok} (h : OperandR c t X n)
    (hf : n ≤ f) (he : Ends c rest) : Pc f c (X ++ rest) = some (t, rest) :=
  h f rest (t, rest) hf (he.mono (Nat.le_succ c)) (loopG_stop (he.2 f c (Nat.le_refl c)) _ t)

theorem OperandR.le {c c' : Nat} {t : Ex} {X : List Tok} {n : Nat} (h : OperandR c' t X n) (hc : c ≤ c') : OperandR c t X n := by
  induction hc with
  | refl => exact h
  -- the tower: X read as an operand of level c'+1, then the loop of level c' from it, is what level c' does on X
  | step _ ih => exact ih fun f rest res hf he hl => Pc_of_next (h.parse hf he) hl

theorem operandR_of_noloop {c : Nat} {t : Ex} {X : List Tok} {n : Nat} (hc : c = nLevels ∨ nLevels + 2 ≤ c)
    (h : ∀ f rest, n ≤ f → Ends (c + 1) rest → Pc f c (X ++ rest) = some (t, rest)) : OperandR c t X n := by
  intro f rest res hf he hl
  rw [stepL_noloop hc, loopG_stop (fun _ _ _ => rfl)] at hl
  rw [← hl]
  exact h f rest hf he

theorem TermR.operand {t : Ex} {X : List Tok} {n : Nat} (h : TermR t X n) : OperandR (nLevels + 2) t X n :=
  operandR_of_noloop (Or.inr (Nat.le_refl _)) fun f rest hf he => by
    rw [Pc_term (Nat.le_refl _)]
    exact h f rest hf he.1

theorem OperandR.expr (hT : tableOK = true) {t : Ex} {X : List Tok} {n : Nat} (h : OperandR 0 t X n) : ExprR t X n :=
  fun _ _ hf hs => h.parse hf (hs.ends hT)

/-- entering a nested expression (parentheses, an indexer, an argument) costs one unit of nesting fuel -/
theorem ExprR.read {t : Ex} {X : List Tok} {n f : Nat} {rest : List Tok} (h : ExprR t X n) (hf : n < f) (hs : Stop 0 rest) :
    exprP f (X ++ rest) = some (t, rest) := by
  obtain ⟨f', rfl⟩ : ∃ f', f = f' + 1 := ⟨f - 1, by omega⟩
  rw [exprP_succ]
  exact h f' rest (by omega) hs

theorem ExprR.wrap {t : Ex} {X : List Tok} {n : Nat} (h : ExprR t X n) :
    TermR t (.kw "(" :: X ++ [.kw ")"]) (n + 1) := by
  intro f rest hf hr
  have hin := h.read (f := f) (by omega) (stop_closer 0 (.inl rfl) rest)
  simp only [List.cons_append, List.append_assoc, List.nil_append]
  simp only [termP, hin]

theorem OperandR.step {c : Nat} {l : Ex} {A : List Tok} {n : Nat} (h : OperandR c l A n)
    (o : String) (B : List Tok) (m : Nat) (build : Ex → Ex) (ho : ∀ r, Ends (c + 1) (.kw o :: r))
    (hrhs : ∀ f rest, m ≤ f → Ends (c + 1) rest → ∃ rhs, stepL f c o = some rhs ∧ rhs (B ++ rest) = some (build, rest)) :
    OperandR c (build l) (A ++ .kw o :: B) (max n m) := by
  intro f rest res hf he hl
  obtain ⟨rhs, hs, hr⟩ := hrhs f rest (by omega) he
  rw [List.append_assoc, List.cons_append]
  apply h f _ res (by omega) (ho _)
  rw [List.length_cons, loopG_cons hs hr]
  -- after `o B` the parser's loop has the budget `(B ++ rest).length`, `hl` speaks of `rest.length`: more is as good
  exact loopG_mono hl (by simp)

theorem OperandR.bin (hT : tableOK = true) {o : String} {l r : Ex} {A B : List Tok} {na nb : Nat}
    (ho : levelIdx o false < nLevels) (hl : OperandR (levelIdx o false) l A na) (hr : OperandR (levelIdx o false + 1) r B nb) :
    OperandR (levelIdx o false) (.bin o l r) (A ++ .kw o :: B) (max na nb) :=
  hl.step o B nb (fun left => .bin o left r) (fun r => (stop_op ho r).ends hT) fun f rest hf he =>
    ⟨_, stepL_op f ho, by simp [binRhs, hr.parse hf he]⟩

theorem startsParen_false {ts : List Tok} (h : ∀ r, ts ≠ .kw "(" :: r) : startsParen ts = false := by
  unfold startsParen
  split
  · exact absurd rfl (h _)
  · rfl

theorem qualToks_cons_cons (n m : String) (q : List String) :
    qualToks (n :: m :: q) = .ident n :: .kw "." :: qualToks (m :: q) := rfl

/-- a type name starts with its first component; what comes next is the end or a '.' -/
theorem qualToks_cons (m : String) (q : List String) :
    ∃ T, qualToks (m :: q) = .ident m :: T ∧ (T = [] ∨ ∃ T', T = .kw "." :: T') := by
  cases q with
  | nil => exact ⟨[], rfl, Or.inl rfl⟩
  | cons a b => exact ⟨_, rfl, Or.inr ⟨_, rfl⟩⟩

theorem qualified_parse {q : List String} (hq : q ≠ []) {rest : List Tok} (hr : ∀ r, rest ≠ .kw "." :: r)
    (hp : ∀ r, rest ≠ .kw "(" :: r) {k : Nat} (hk : (qualToks q ++ rest).length ≤ k) :
    qualified k (qualToks q ++ rest) = some (q, rest) := by
  induction q generalizing k with
  | nil => exact absurd rfl hq
  | cons n q ih =>
    cases q with
    | nil =>
      obtain ⟨k, rfl⟩ : ∃ k', k = k' + 1 := ⟨k - 1, by simp only [qualToks, List.cons_append, List.length_cons] at hk; omega⟩
      simp only [qualToks, List.cons_append, List.nil_append, qualified, isIdentTok]
      split
      · exact absurd rfl (hr _)
      · rfl
    | cons m q =>
      rw [qualToks_cons_cons] at hk ⊢
      simp only [List.cons_append, List.length_cons] at hk ⊢
      obtain ⟨k, rfl⟩ : ∃ k', k = k' + 1 := ⟨k - 1, by omega⟩
      have ih' := ih (by simp) (k := k) (by omega)
      -- the next component is read as one: an identifier, not followed by '('
      obtain ⟨T, hT, hT'⟩ := qualToks_cons m q
      have hsp : startsParen (T ++ rest) = false := by
        rcases hT' with rfl | ⟨T', rfl⟩
        · exact startsParen_false hp
        · rfl
      rw [hT] at ih' ⊢
      simp only [List.cons_append] at ih' ⊢
      simp only [qualified, isIdentTok, Option.isSome_some, hsp, Bool.not_false, Bool.and_self, if_true, ih']

theorem OperandR.typ (hT : tableOK = true) {o : String} {e : Ex} {q : List String} {A : List Tok} {n : Nat}
    (ho : levelIdx o true < nLevels) (hq : q ≠ []) (he : OperandR (levelIdx o true) e A n) :
    OperandR (levelIdx o true) (.typ o e q) (A ++ .kw o :: qualToks q) n := by
  refine (he.step o (qualToks q) 0 (fun left => .typ o left q) (fun r => (stop_op ho r).ends hT)
    fun f rest _ hr => ⟨_, stepL_op f ho, ?_⟩).mono (by omega)
  have hcs : Cc f (levelIdx o true + 1) rest = some (id, rest) := Cc_ends ho hr
  simp only [typRhs, qualified_parse hq (hr.not_dot (by omega)) hr.1.1 (Nat.le_refl _), hcs, Option.map_some, if_true]
  rfl

theorem OperandR.pol {s : String} {e : Ex} {A : List Tok} {n : Nat} (hs : s = "+" ∨ s = "-") (he : OperandR nLevels e A n) :
    OperandR nLevels (.pol s e) (.kw s :: A) n :=
  operandR_of_noloop (Or.inl rfl) fun f rest hf hr => by
    have hin := he.parse hf (hr.of_succ (Or.inl rfl))
    rw [Pc_unary] at hin ⊢
    unfold unaryP at hin ⊢
    simp only [List.cons_append, List.length_cons]
    rcases hs with h | h <;> subst h <;> simp only [unary, hin, Option.map_some]

/-- I is a rendering of i as an invocation: what stands after `.`, or alone as a term -/
def InvR (i : Ex) (I : List Tok) (n : Nat) : Prop :=
  ∀ f rest, n ≤ f → (∀ r, rest ≠ .kw "(" :: r) → invocationP (exprP f) (I ++ rest) = some (i, rest)

theorem InvR.mono {t : Ex} {X : List Tok} {n m : Nat} (h : InvR t X n) (hm : n ≤ m) : InvR t X m :=
  fun f rest hf hr => h f rest (Nat.le_trans hm hf) hr

theorem OperandR.dot {e i : Ex} {A I : List Tok} {n m : Nat} (he : OperandR (nLevels + 1) e A n) (hi : InvR i I m) :
    OperandR (nLevels + 1) (.dot e i) (A ++ .kw "." :: I) (max n m) :=
  he.step "." I m (fun left => .dot left i) (fun r => (restOK_kw r (by decide) (by decide)).ends) fun f rest hf hr =>
    ⟨dotRhs (exprP f), by simp [stepL_post, stepPostfix], by simp only [dotRhs, hi f rest hf hr.1.1, Option.map_some]⟩

theorem OperandR.idx {e ix : Ex} {A X : List Tok} {n m : Nat} (he : OperandR (nLevels + 1) e A n)
    (hx : ExprR ix X m) : OperandR (nLevels + 1) (.idx e ix) (A ++ .kw "[" :: X ++ [.kw "]"]) (max n (m + 1)) := by
  have := he.step "[" (X ++ [.kw "]"]) (m + 1) (fun left => .idx left ix)
      (fun r => (restOK_kw r (by decide) (by decide)).ends) fun f rest hf hr => by
    have hin := hx.read (f := f) (by omega) (stop_closer 0 (.inr (.inl rfl)) rest)
    exact ⟨idxRhs (exprP f), by simp [stepL_post, stepPostfix], by simp [idxRhs, hin]⟩
  simpa using this

theorem TermR.expr (hT : tableOK = true) {t : Ex} {X : List Tok} {n : Nat} (h : TermR t X n) : ExprR t X n :=
  (h.operand.le (Nat.zero_le _)).expr hT

theorem parseProg_of_exprR {t : Ex} {X : List Tok} {n : Nat} (h : ExprR t X n)
    (hn : n ≤ 2 * X.length + 1) : parseProg X = some t := by
  have := h (2 * X.length + 1) [] hn (Or.inl rfl)
  rw [List.append_nil] at this
  unfold parseProg
  rw [show 2 * X.length + 2 = (2 * X.length + 1) + 1 from rfl, exprP_succ, this]

/-- the first component: `f(AS)` must not be taken for `f()` -/
def ArgsR (as : Ex) (AS : List Tok) (n : Nat) : Prop :=
  (∃ a AS', AS = a :: AS' ∧ a ≠ .kw ")") ∧
  ∀ f k rest, n ≤ f → AS.length ≤ k → argsP (exprP f) k (AS ++ .kw ")" :: rest) = some (as, .kw ")" :: rest)

theorem ArgsR.mono {t : Ex} {X : List Tok} {n m : Nat} (h : ArgsR t X n) (hm : n ≤ m) : ArgsR t X m :=
  ⟨h.1, fun f k rest hf hk => h.2 f k rest (Nat.le_trans hm hf) hk⟩

theorem ExprR.head {t : Ex} {X : List Tok} {n : Nat} (h : ExprR t X n) : ∃ x xs, X = x :: xs ∧ x ≠ .kw ")" := by
  have h0 := h n [] (Nat.le_refl _) (Or.inl rfl)
  rw [List.append_nil] at h0
  rcases X with _ | ⟨x, xs⟩
  · rw [Pc_none (termP_nil _) (fun _ => ⟨nofun, nofun⟩)] at h0
    cases h0
  · refine ⟨x, xs, rfl, ?_⟩
    rintro rfl
    rw [Pc_none (termP_sign_or_closer _ ")" (by simp) _) (fun _ => by simp)] at h0
    cases h0

theorem ExprR.args_one {e : Ex} {X : List Tok} {n : Nat} (h : ExprR e X n) : ArgsR (.argCons e .argNil) X (n + 1) := by
  refine ⟨h.head, ?_⟩
  intro f k rest hf hk
  have hne : 1 ≤ X.length := by obtain ⟨x, xs, rfl, _⟩ := h.head; simp
  obtain ⟨k', rfl⟩ : ∃ k', k = k' + 1 := ⟨k - 1, by omega⟩
  have hin := h.read (f := f) (by omega) (stop_closer 0 (.inl rfl) rest)
  simp [argsP, hin]

theorem ExprR.args_cons {e as : Ex} {X AS : List Tok} {n m : Nat} (h : ExprR e X n) (ha : ArgsR as AS m) :
    ArgsR (.argCons e as) (X ++ .kw "," :: AS) (max (n + 1) m) := by
  constructor
  · obtain ⟨x, xs, rfl, hx⟩ := h.head
    exact ⟨x, _, rfl, hx⟩
  · intro f k rest hf hk
    simp only [List.length_append, List.length_cons] at hk
    obtain ⟨k', rfl⟩ : ∃ k', k = k' + 1 := ⟨k - 1, by omega⟩
    have hin := h.read (f := f) (rest := .kw "," :: (AS ++ .kw ")" :: rest)) (by omega) (stop_closer 0 (.inr (.inr rfl)) _)
    have hrest := ha.2 f k' rest (by omega) (by omega)
    simp only [List.append_assoc, List.cons_append]
    simp [argsP, hin, hrest]

theorem ArgsR.call {as : Ex} {AS : List Tok} {m : Nat} (n : String) (ha : ArgsR as AS m) :
    InvR (.call n as) (.ident n :: .kw "(" :: AS ++ [.kw ")"]) m := by
  intro f rest hf _
  have hargs := ha.2 f (AS ++ .kw ")" :: rest).length rest hf (by simp)
  obtain ⟨a, AS', rfl, hcl⟩ := ha.1
  simp only [List.cons_append, List.append_assoc, List.nil_append] at hargs ⊢
  unfold invocationP
  simp only [isIdentTok]
  split
  -- `n ( )`: the arguments do not start with `)`, the first component of `ArgsR`
  · rename_i heq; simp at heq; exact absurd heq.1 hcl
  -- `n ( args`
  · rename_i r1 heq
    simp only [List.cons.injEq, true_and] at heq
    subst heq
    simp only [hargs]
  -- no parenthesis: a member
  · rename_i h1 h2
    exact absurd rfl (h2 _)

end FP.Lemmas.Syntax
