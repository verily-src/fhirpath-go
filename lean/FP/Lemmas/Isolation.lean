/-
  FP.Lemmas.Isolation — FP.Model.Isolation.  The options of one Compile call only append names to its working table,
  each traced to an `addFunction` option of that call or to the experimental table.  Interleavings: `Agree`, the
  invariant of C04's theorem (the real memory and that of the run alone agree on what a thread may read).
-/
import FP.Model.Isolation
namespace FP.Lemmas.Isolation
open FP.Model

theorem applyCompileOpt_extends (exp t : Names) (o : CompileOpt) :
    ∃ e, (applyCompileOpt exp t o).1 = t ++ e ∧ ∀ n ∈ e, o = .addFunction n true ∨ n ∈ exp := by
  cases o with
  | addFunction n good =>
    simp only [applyCompileOpt]
    by_cases c : n ∈ t
    · exact ⟨[], by simp [c]⟩
    · cases good
      · exact ⟨[], by simp [c]⟩
      · exact ⟨[n], by simp [c]⟩
  | experimental => exact ⟨_, rfl, fun n hn => .inr (List.mem_filter.mp hn).1⟩
  | permissive => exact ⟨[], by simp [applyCompileOpt]⟩

theorem applyCompileOpts_extends (exp t : Names) (opts : List CompileOpt) :
    ∃ e, (applyCompileOpts exp t opts).1 = t ++ e ∧ ∀ n ∈ e, .addFunction n true ∈ opts ∨ n ∈ exp := by
  induction opts generalizing t with
  | nil => exact ⟨[], by simp [applyCompileOpts]⟩
  | cons o os ih =>
    obtain ⟨e1, he1, h1⟩ := applyCompileOpt_extends exp t o
    obtain ⟨e2, he2, h2⟩ := ih (applyCompileOpt exp t o).1
    refine ⟨e1 ++ e2, by rw [applyCompileOpts, he2, he1, List.append_assoc], fun n hn => ?_⟩
    rcases List.mem_append.mp hn with hn | hn
    · exact (h1 n hn).imp_left fun h => by rw [h]; exact List.mem_cons_self
    · exact (h2 n hn).imp_left (List.mem_cons_of_mem _)

def Agree (owner : Nat → Option Nat) (i : Nat) (m m' : Mem) : Prop :=
  ∀ l, owner l = none ∨ owner l = some i → m l = m' l

/-- the `if`: thread `i`'s own write is replayed in the run alone, another thread's goes where `i` may not read -/
theorem agree_set (owner : Nat → Option Nat) (i t l v : Nat) (m m' : Mem) (ha : Agree owner i m m') (hown : owner l = some t) :
    Agree owner i (m.set l v) (if t = i then m'.set l v else m') := by
  intro x hx
  by_cases hxl : x = l
  · subst hxl
    have : t = i := by rcases hx with hx | hx <;> rw [hown] at hx <;> cases hx; rfl
    simp [Mem.set, this]
  · split <;> simp [Mem.set, hxl, ha x hx]

end FP.Lemmas.Isolation
