/- FP.Lemmas.Literal — single steps of the scan of `system.ParseString` (`decodeAux`). -/
import FP.Model.Literal
namespace FP.Lemmas.Literal
open FP.Model.Literal

theorem decodeAux_nil (f : Nat) : decodeAux f [] = [] := by cases f <;> rfl

theorem decodeAux_cons_ne (f : Nat) (c : Char) (r : List Char) (h : c ≠ '\\') :
    decodeAux (f + 1) (c :: r) = c :: decodeAux f r := by
  -- the last arm of the scan; its side conditions say that the other arms do not match
  rw [decodeAux]
  · intro h1 _; exact h h1
  · intro c' r' h1 _; exact h h1

theorem decodeAux_esc (f : Nat) (c d : Char) (r : List Char) (h : escapeOf c = some d) :
    decodeAux (f + 1) ('\\' :: c :: r) = d :: decodeAux f r := by
  simp [decodeAux, h]

end FP.Lemmas.Literal
