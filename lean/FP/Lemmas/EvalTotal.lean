/-
  FP.Lemmas.EvalTotal — `eval` never yields `.panic`, with no hypothesis on the operands.
  In the models `eval` runs through, `.panic` can enter only where a translated Go operation may trap (`liftInt`,
  `Res.ofOption`, `negate`, `decFloorDiv`); everything else hands it on or is built from `.ok` / `.err`.  So there
  is one real fact per trapping operation (FP.Lemmas.Arith, `table_isSome`, `convTo_ne_panic`) and, here, one line
  `f … ≠ .panic` per model function, closed by `simp` with the lines before it; a continuation or an evaluated
  argument comes with the same fact as a hypothesis.  The lines are `simp` lemmas in this namespace only (`scoped`).
-/
import FP.Lemmas.Eval
import FP.Lemmas.Arith
import FP.Lemmas.Bool
import FP.Lemmas.ConvTable
import FP.Lemmas.Coll
namespace FP.Lemmas.EvalTotal
open FP.Model FP.Model.Eval FP.Lemmas.Coll

@[scoped simp] theorem mapRes_eq_panic {α β : Type} (f : α → β) (r : Res α) : mapRes f r = .panic ↔ r = .panic := by
  cases r <;> simp

@[scoped simp] theorem arithColl_ne_panic (op : ArithOp) (l r : List Val) : arithColl op l r ≠ .panic := by
  unfold arithColl
  split
  · simp
  · split
    · exact arithExpr_ne_panic op _ _
    · simp

@[scoped simp] theorem negColl_ne_panic (c : List Val) : negColl c ≠ .panic := by
  unfold negColl
  split
  · simp
  · unfold negate
    split
    · rename_i i
      have := mul_some i (-1)
      split
      · simp_all
      all_goals simp
    all_goals simp
  · simp

@[scoped simp] theorem mathOn_ne_panic (f : MathFn) (input : List Val) : mathOn f input ≠ .panic := by
  unfold mathOn
  split
  · simp
  · unfold mathFn; split <;> simp
  · simp

@[scoped simp] theorem concatColl_ne_panic (l r : List Val) : concatColl l r ≠ .panic := by
  unfold concatColl; simp only []; split <;> simp
@[scoped simp] theorem indexColl_ne_panic (i input : List Val) : indexColl i input ≠ .panic := by
  unfold indexColl; split <;> simp
@[scoped simp] theorem typeOpColl_ne_panic (f : Val → List Val) (c : List Val) : typeOpColl f c ≠ .panic := by
  unfold typeOpColl; split <;> simp
@[scoped simp] theorem toSingletonBoolean_ne_panic (c : List BItem) : toSingletonBoolean c ≠ .panic := by
  unfold toSingletonBoolean; split <;> simp
@[scoped simp] theorem toBool_ne_panic (c : List BItem) : Model.toBool c ≠ .panic := by
  unfold Model.toBool; split <;> simp

@[scoped simp] theorem boolExpr_ne_panic (op : BoolOp) (l r : List BItem) : boolExpr op l r ≠ .panic := by
  simp [boolExpr, Res.monad_bind, ← Option.isSome_iff_ne_none, table_isSome]

@[scoped simp] theorem notFn_ne_panic (c : List BItem) : notFn c ≠ .panic := by
  simp [notFn, Res.monad_bind, pure, toSingletonBoolean_ne_panic]

theorem cmpCore_ne_panic (l r : List (Option Val)) : cmpCore l r ≠ .panic := by
  unfold cmpCore
  simp only []
  -- every arm is `.ok` or `.err`
  repeat' split
  all_goals simp

@[scoped simp] theorem cmpExpr_ne_panic (op : CmpOp) (l r : List (Option Val)) : cmpExpr op l r ≠ .panic := by
  unfold cmpExpr
  split
  · simp
  · simp
  · simp
  · exact absurd ‹_› (cmpCore_ne_panic l r)

@[scoped simp] theorem shiftDate_ne_panic (p : Calendar.Prec) (w : Text.Wall) (v : Dec) (u : String) (sg : Int) :
    Calendar.shiftDate p w v u sg ≠ .panic := by
  unfold Calendar.shiftDate; split <;> simp
@[scoped simp] theorem shiftDateTime_ne_panic (p : Calendar.Prec) (w : Text.Wall) (v : Dec) (u : String) (sg : Int) :
    Calendar.shiftDateTime p w v u sg ≠ .panic := by
  unfold Calendar.shiftDateTime; split <;> simp
@[scoped simp] theorem shiftTime_ne_panic (p : Calendar.Prec) (w : Text.Wall) (v : Dec) (u : String) (sg : Int) :
    Calendar.shiftTime p w v u sg ≠ .panic := by
  unfold Calendar.shiftTime
  split
  · simp
  · split <;> simp

@[scoped simp] theorem shiftVal_ne_panic (sg : Int) (l : Val) (v : Dec) (u : List UInt8) : Temporal.shiftVal sg l v u ≠ .panic := by
  unfold Temporal.shiftVal
  split
  · simp
  · split
    · split <;> simp [shiftDate_ne_panic]
    · split <;> simp [shiftDateTime_ne_panic]
    · split <;> simp [shiftTime_ne_panic]
    · simp

@[scoped simp] theorem arithEv_ne_panic (op : ArithOp) (l r : List Val) : arithEv op l r ≠ .panic := by
  unfold arithEv; split <;> simp [shiftVal_ne_panic, arithColl_ne_panic]

attribute [scoped simp] FP.Lemmas.Conv.convTo_ne_panic

@[scoped simp] theorem convOn_ne_panic (t : Conv.Ty) (input : List Val) : convOn t input ≠ .panic := by
  unfold convOn
  split
  · simp
  · split
    · simp
    · split
      · simp
      · split <;> simp
      · simp
      · exact absurd ‹_› (FP.Lemmas.Conv.convTo_ne_panic _ _)
  · simp

@[scoped simp] theorem convertsOn_ne_panic (t : Conv.Ty) (input : List Val) : convertsOn t input ≠ .panic := by
  unfold convertsOn
  split
  · simp
  · split <;> simp
  · simp

@[scoped simp] theorem toStr_ne_panic (c : List Val) : toStr c ≠ .panic := by unfold toStr; split <;> simp
@[scoped simp] theorem toInt32_ne_panic (c : List Val) : toInt32 c ≠ .panic := by unfold toInt32; split <;> simp
@[scoped simp] theorem chars_ne_panic (b : List UInt8) : chars? b ≠ .panic := by unfold chars?; split <;> simp
@[scoped simp] theorem roundVal_ne_panic (p : Int) (v : Val) : roundVal p v ≠ .panic := by unfold roundVal; split <;> simp
@[scoped simp] theorem joinOn_ne_panic (d : List UInt8) (input : List Val) : joinOn d input ≠ .panic := by
  unfold joinOn; split <;> simp
@[scoped simp] theorem caseOn_ne_panic (f : Char → Char) (input : List Val) : caseOn f input ≠ .panic := by
  unfold caseOn; split <;> simp [toStr_ne_panic, chars_ne_panic]
@[scoped simp] theorem clockFn_ne_panic (name : String) (env : Env) : clockFn name env ≠ .panic := by
  unfold clockFn
  split
  · simp [chars_ne_panic]; intro _ _; split <;> simp
  · simp

section Continuation
variable {k : Str → Res (List Val)} (hk : ∀ s, k s ≠ .panic)
include hk

@[scoped simp] theorem onString_ne_panic (input : List Val) : onString input k ≠ .panic := by
  unfold onString; split <;> simp [toStr_ne_panic, chars_ne_panic, hk]
@[scoped simp] theorem strArg1_ne_panic (a : List Val) : strArg1 a k ≠ .panic := by
  unfold strArg1; split <;> simp [toStr_ne_panic, chars_ne_panic, hk]
@[scoped simp] theorem strArg01_ne_panic (a : List Val) : strArg01 a k ≠ .panic := by
  unfold strArg01; split <;> simp [toStr_ne_panic, chars_ne_panic, hk]
end Continuation

@[scoped simp] theorem intArg1_ne_panic {k : Int → Res (List Val)} (hk : ∀ s, k s ≠ .panic) (a : List Val) : intArg1 a k ≠ .panic := by
  unfold intArg1; split <;> simp [toInt32_ne_panic, hk]

section Criteria
variable {crit : Val → Res (List BItem)} (h : ∀ x, crit x ≠ .panic)
include h

@[scoped simp] theorem whereFn_ne_panic (c : List Val) : whereFn crit c ≠ .panic := by
  induction c with
  | nil => simp [whereFn]
  | cons x xs ih => simp [whereFn_cons, h, toBool_ne_panic, ih]

@[scoped simp] theorem existsFn_ne_panic (c : List Val) : existsFn crit c ≠ .panic := by
  unfold existsFn
  split
  · simp
  · simp
  · exact absurd ‹_› (whereFn_ne_panic h c)

@[scoped simp] theorem allFn_ne_panic (c : List Val) : allFn crit c ≠ .panic := by
  induction c with
  | nil => simp [allFn]
  | cons x xs ih => simp [allFn_cons, h, toBool_ne_panic, ih]
end Criteria

@[scoped simp] theorem selectFn_ne_panic {proj : Val → Res (List Val)} (h : ∀ x, proj x ≠ .panic) (c : List Val) :
    selectFn proj c ≠ .panic := by
  induction c with
  | nil => simp [selectFn]
  | cons x xs ih => simp [selectFn_cons, h, ih]

@[scoped simp] theorem crit_ne_panic {p : Ev} (hp : ∀ i, p i ≠ .panic) (x : Val) : crit p x ≠ .panic := by simp [crit, hp]

theorem apply0_ne_panic (name : String) (input : List Val) : apply0 name input ≠ .panic := by
  unfold apply0
  -- `repeat'`: the `round` row has a `match` of its own
  repeat' split
  all_goals simp

section Args
variable {a b c : Ev} (ha : ∀ i, a i ≠ .panic) (hb : ∀ i, b i ≠ .panic) (hc : ∀ i, c i ≠ .panic)

include ha in
theorem apply1_ne_panic (name : String) (input : List Val) : apply1 name a input ≠ .panic := by
  unfold apply1
  split <;> try (simp [ha]; done)
  · -- `power`
    simp [ha]; intro _ _ _; split <;> simp [toInt32_ne_panic]
  · -- `round`
    split <;> simp [ha, toInt32_ne_panic, roundVal_ne_panic]

include ha hb in
theorem apply2_ne_panic (name : String) (input : List Val) : apply2 name a b input ≠ .panic := by
  unfold apply2
  split
  · simp [ha, hb]
  · exact onString_ne_panic (fun s => by simp [ha, hb]) _
  · exact onString_ne_panic (fun s => by simp [ha, hb]) _
  · simp

include ha hb hc in
theorem apply3_ne_panic (name : String) (input : List Val) : apply3 name a b c input ≠ .panic := by
  unfold apply3; split <;> simp [ha, hb, hc]
end Args

/-- what the induction carries for a call: `eval` looks through the argument chain at the arguments themselves -/
def ArgsNoCrash (env : Env) : E → Prop
  | .argCons a r => (∀ i, eval env a i ≠ .panic) ∧ ArgsNoCrash env r
  | _ => True

theorem eval_fn_ne_panic (env : Env) (name : String) (args : E) (h : ArgsNoCrash env args) (input : List Val) :
    eval env (.fn name args) input ≠ .panic := by
  unfold eval
  -- `split` lists every arm of `eval`; those not for `.fn` contradict their own `E.fn name args = …`
  split <;> simp_all [ArgsNoCrash, apply0_ne_panic, apply1_ne_panic, apply2_ne_panic, apply3_ne_panic]

theorem eval_ne_panic_aux (env : Env) (e : E) : (∀ input, eval env e input ≠ .panic) ∧ ArgsNoCrash env e := by
  induction e with
  | argCons a r iha ihr => exact ⟨by simp [eval], iha.1, ihr.2⟩
  | fn name args ih => exact ⟨eval_fn_ne_panic env name args ih.2, trivial⟩
  | ext n => exact ⟨fun _ => by rw [eval_ext]; split <;> simp, trivial⟩
  -- every other form: sub-results by the induction hypotheses, bound into an operator that has its line above
  | _ => exact ⟨by simp [eval, *], trivial⟩

theorem eval_ne_panic (env : Env) (e : E) (input : List Val) : eval env e input ≠ .panic :=
  (eval_ne_panic_aux env e).1 input

theorem finish_ne_crash (env : Env) (input : List Val) (c : CRes (E × Bool)) : finish env input c ≠ .crash := by
  unfold finish
  split
  · simp
  · simp
  · split
    · simp
    · simp
    · simp
    · exact absurd ‹_› (eval_ne_panic _ _ _)

end FP.Lemmas.EvalTotal
