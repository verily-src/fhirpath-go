/- FP.Lemmas.Arith (declared into `FP.Lemmas`) — FP.Model.Arith: the operator dispatch never traps, on any two values:
   the division primitives trap on a zero divisor only, and that is turned away before the division. -/
import FP.Model.Arith
import FP.Lemmas.Int32
import FP.Lemmas.Dec
import FP.Lemmas.Res
namespace FP.Lemmas
open FP.Go FP.Model

@[simp] theorem mapArithErr_eq_panic (x : Res Val) : mapArithErr x = Res.panic ↔ x = .panic := by
  unfold mapArithErr; split <;> simp

theorem liftInt_eq_panic (r : G (Except String Int)) : liftInt r = .panic ↔ r = none := by
  rcases r with _ | _ | _ <;> simp [liftInt]

theorem decFloorDiv_eq_panic (a b : Dec) : decFloorDiv a b = .panic ↔ b.coeff = 0 := by
  unfold decFloorDiv Dec.quoRem
  by_cases h : b.coeff = 0 <;> simp [h]

/-- every row of the dispatch is an `.ok` or an `.err` (which `try simp` closes) except the rows with a bullet of
    their own: the Integer row of `+ - *` and, after the zero test, the Integer and Decimal rows of the divisions -/
@[simp] theorem evalOp_ne_panic (op : ArithOp) (l r : Val) : evalOp op l r ≠ .panic := by
  unfold evalOp
  split
  · split <;> try simp
    · simp [liftInt_eq_panic, ← Option.isSome_iff_ne_none, add_some]
  · split <;> try simp
    · simp [liftInt_eq_panic, ← Option.isSome_iff_ne_none, sub_some]
  · split <;> try simp
    · simp [liftInt_eq_panic, ← Option.isSome_iff_ne_none, mul_some]
  · split
    · simp
    · split <;> try simp
      · simp_all [decDiv_eq_none, isZeroVal, Dec.ofInt]
      · simp_all [decDiv_eq_none, isZeroVal, Dec.isZero]
  · split
    · simp
    · split <;> try simp
      · simp_all [floorDiv_eq_none, isZeroVal]
      · simp_all [decFloorDiv_eq_panic, isZeroVal, Dec.isZero]
  · split
    · simp
    · split <;> try simp
      · simp_all [intMod_eq_none, isZeroVal]
      · simp_all [decMod_eq_none, isZeroVal, Dec.isZero]

@[simp] theorem arithExpr_ne_panic (op : ArithOp) (l r : Val) : arithExpr op l r ≠ .panic := by simp [arithExpr]

theorem arith_checked (x : Int) :
    mapArithErr (liftInt (some (if inInt32 x then .ok x else .error "ErrIntOverflow"))) =
      .ok (if inInt32 x then [.int x] else []) := by
  by_cases h : inInt32 x <;> simp [h, liftInt, mapArithErr]

end FP.Lemmas
