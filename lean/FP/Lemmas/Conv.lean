/-
  FP.Lemmas.Conv — the parser tables of layouts.go.  `formatT` widens ".000" to six or nine digits
  for a reading with digits below the millisecond; such a text is read back not by its own layout
  but by the sibling without fraction element, whose name `widenLayout` maps back.  One decidable
  condition per table (`layoutsOK`), one theorem (`table_roundtrip`).
-/
import FP.Model.Conv
import FP.Lemmas.Text
namespace FP.Lemmas.Conv
open FP.Model.Text FP.Model.Conv FP.Lemmas.Text

/-- `hs`: the text starts with a digit; `hp`: the prefix does not -/
theorem trimPrefix_digit (p s : S) (hs : (shapeOf s).head? = some none)
    (hp : (match p with | c :: _ => !isDigit c | [] => true) = true) : trimPrefix p s = s := by
  cases p with
  | nil => simp [trimPrefix]
  | cons c r =>
    cases s with
    | nil => simp [shapeOf] at hs
    | cons d t =>
      simp only [shapeOf, List.map_cons, List.head?_cons, Option.some.injEq, symOf] at hs
      have hd : isDigit d = true := by
        by_cases h : isDigit d = true
        · exact h
        · simp [h] at hs
      have hne : (c == d) = false := by
        simp only [beq_eq_false_iff_ne]; intro h; subst h; simp [hd] at hp
      simp [trimPrefix, List.isPrefixOf, hne]

def widenE (n : Nat) : Elem → Elem
  | .frac0 3 => .frac0 n
  | e => e
def widenTo (n : Nat) (l : List Elem) : List Elem := l.map (widenE n)

def fracDigits (w : Wall) : Nat := if w.nanos % 1000000 = 0 then 3 else if w.nanos % 1000 = 0 then 6 else 9

theorem widenTo_three (l : List Elem) : widenTo 3 l = l := by
  unfold widenTo
  conv => rhs; rw [← List.map_id l]
  apply List.map_congr_left
  intro e _
  unfold widenE; split <;> rfl

theorem fractionLayout_plain (l : List Elem) (w : Wall) (hn : w.nanos % 1000000 = 0) : fractionLayout l w = l := if_pos hn

theorem fractionLayout_eq (l : List Elem) (w : Wall) : fractionLayout l w = widenTo (fracDigits w) l := by
  unfold fractionLayout fracDigits
  by_cases h6 : w.nanos % 1000000 = 0
  · simp only [h6, if_true, widenTo_three]
  · simp only [h6, if_false, widenTo]
    apply List.map_congr_left
    intro e _
    -- on both sides `.frac0 3` becomes `.frac0 6` or `.frac0 9` and anything else stays
    unfold widenE; split <;> (split <;> simp_all)

def isFrac : Elem → Bool
  | .frac0 _ => true
  | _ => false

theorem isFrac_widenE (n : Nat) (e : Elem) : isFrac (widenE n e) = isFrac e := by
  unfold widenE; split <;> rfl

def hasFrac (l : List Elem) : Bool := l.any isFrac

theorem hasFrac_widenTo (n : Nat) (l : List Elem) : hasFrac (widenTo n l) = hasFrac l := by
  simp only [hasFrac, widenTo, List.any_map]
  exact congrArg (List.any l) (funext (isFrac_widenE n))

theorem nanos_zero_of_noFrac (l : List Elem) (w : Wall) (hx : Expressible l w) (h : hasFrac l = false) : w.nanos = 0 := by
  apply hx.2 .nanos
  intro e he a ha
  cases e
  case frac0 n =>
    have : hasFrac l = true := List.any_eq_true.mpr ⟨.frac0 n, he, rfl⟩
    rw [h] at this; cases this
  all_goals simp [assign] at ha <;> subst ha <;> simp

/-- the kernel compares these numbers cheaply; the derived equality of `Elem`, on layouts computed
    from string literals, is several times dearer -/
def elemCode : Elem → Nat
  | .year4 => 0 | .month2 => 1 | .day2 => 2 | .hour => 3 | .minute2 => 4 | .second2 => 5 | .tzColon => 6
  | .frac0 n => 7 + 2 * n
  | .lit c => 8 + 2 * c.toNat

theorem elemCode_inj (a b : Elem) (h : elemCode a = elemCode b) : a = b := by
  cases a <;> cases b <;> simp only [elemCode] at h
  case frac0.frac0 n m => congr; omega
  case lit.lit c d => congr; exact Char.toNat_inj.mp (by omega)
  all_goals first | rfl | omega

/-- any reading with a sub-second part would do: `widenLayout` only asks whether there is one -/
def subSecond : Wall := ⟨0, 0, 0, 0, 0, 0, 1, 0⟩

/-- where the table should have the layout that reads the i-th layout's rendering with `n` fraction digits -/
def readerIdx (ls : List String) (i n : Nat) : Nat :=
  if n = 3 then i
  else ((layoutsOf ls).map (·.map elemCode)).idxOf ((dropFrac (widenTo n (goLayout (ls.getD i "").toList))).map elemCode)

/-- what the round trip needs of the i-th layout of a table for values rendered with `n` fraction
    digits: `lf` writes, `lr` reads (`lf` itself for three digits, else its sibling `dropFrac lf`),
    `j` is where the table has `lr` -/
def readsAt (ls : List String) (i n : Nat) : Bool :=
  let l := ls.getD i ""
  let ll := goLayout l.toList
  let m := n != 3
  -- a layout without fraction element has no value with digits below the millisecond
  (m && !hasFrac ll) ||
  (let lf := widenTo n ll
   let lls := layoutsOf ls
   let lr := reader m lf
   let j := readerIdx ls i n
   -- needed by `shape_format` and `readElem_formatElem`
   fracOKb lf &&
   (lls[j]?.map (·.map elemCode) == some (lr.map elemCode)) &&
   (tzvs.all fun v =>
      let sh := lf.flatMap (elemShape v)
      -- the rendering starts with a digit: trimming the literal prefix leaves it alone
      sh.head? == some none &&
      -- so the loop gets as far as `j`
      (lls.take j).all (fun lk => (splitW lk sh).isNone) &&
      -- `Cuts m lf v`, for `parseWith_reads`
      (splitW lr sh == some ((pieces m lf (lf.map (elemShape v))).map List.length))) &&
   -- the parser reports `l`, not the reader's name, when the reading has a sub-second part
   (!hasFrac ll || widenLayout (ls.getD j "") subSecond == l))

def layoutsOK (ls : List String) (pfx : String) : Bool :=
  (match pfx.toList with | c :: _ => !isDigit c | [] => true) &&
  (List.range ls.length).all fun i => readsAt ls i 3 && readsAt ls i 6 && readsAt ls i 9

theorem widenLayout_nanos (l : String) (w w' : Wall) (h : w.nanos = 0 ↔ w'.nanos = 0) : widenLayout l w = widenLayout l w' := by
  unfold widenLayout
  by_cases h0 : w.nanos = 0
  · simp [h0, h.mp h0]
  · simp [h0, mt h.mpr h0]

theorem parseFirstOk_of (ok : Wall → Bool) (ls : List (List Elem)) (s : S) (i : Nat) (w : Wall)
    (h : parseFirst ls s = some (i, w)) (hok : ok w = true) : parseFirstOk ok ls s = some (i, w) := by
  induction ls generalizing i with
  | nil => simp [parseFirst] at h
  | cons l r ih =>
    simp only [parseFirst] at h
    simp only [parseFirstOk]
    split at h
    · rename_i w' hw
      cases h
      simp [hok]
    · rename_i hn
      simp only [Option.map_eq_some_iff] at h
      obtain ⟨⟨j, w'⟩, hj, hjw⟩ := h
      cases hjw
      simp [ih j hj]

theorem offsetInRange_of_bounded (w : Wall) (hb : Bounded w) : offsetInRange w = true := by
  have := hb.offset
  simp [offsetInRange]; omega

/-- the loop reads `formatT l w` back as `w`, and the layout the parser then reports
    (`widenLayout` of the reader's name) is `l` again; without digits below the millisecond the
    reader is `l` itself (what `parseDate`, which has no `widenLayout`, needs) -/
theorem table_roundtrip (ls : List String) (pfx : String) (hok : layoutsOK ls pfx = true)
    (i : Nat) (l : String) (hl : ls[i]? = some l) (w : Wall) (hb : Bounded w)
    (hx : Expressible (fractionLayout (goLayout l.toList) w) w) :
    ∃ j, parseFirst (layoutsOf ls) (trimPrefix pfx.toList (formatT l w)) = some (j, w) ∧
      widenLayout (ls.getD j "") w = l ∧ (w.nanos % 1000000 = 0 → j = i) := by
  -- `layoutsOK` gives `readsAt ls i n` for n = `fracDigits w`: the layouts before the reader's index
  -- `j` refuse the shape of the rendering (`parseFirst_at`), the reader cuts it (`parseWith_reads`
  -- gives `w`), and the last conjunct says what `widenLayout` makes of the reader's name
  rw [fractionLayout_eq] at hx
  simp only [formatT, fractionLayout_eq]
  have hlt : i < ls.length := (List.getElem?_eq_some_iff.mp hl).1
  simp only [layoutsOK, Bool.and_eq_true, List.all_eq_true, List.mem_range] at hok
  obtain ⟨hp, hall⟩ := hok
  obtain ⟨⟨h3, h6⟩, h9⟩ := hall i hlt
  have hr : readsAt ls i (fracDigits w) = true := by
    unfold fracDigits; split
    · exact h3
    · split
      · exact h6
      · exact h9
  have hn : fracDigits w ≠ 3 → w.nanos ≠ 0 := fun h hz => by simp [fracDigits, hz] at h
  have hplain : w.nanos % 1000000 = 0 → fracDigits w = 3 := fun h => by simp [fracDigits, h]
  generalize fracDigits w = n at hx hr hn hplain ⊢
  have hget : ls.getD i "" = l := by simp [List.getD, hl]
  have h0 : hasFrac (goLayout l.toList) = false → w.nanos = 0 := fun h =>
    nanos_zero_of_noFrac _ w hx (by rw [hasFrac_widenTo]; exact h)
  have hj3 : n = 3 → readerIdx ls i n = i := fun h => if_pos h
  simp only [readsAt, Bool.or_eq_true, Bool.and_eq_true, List.all_eq_true, beq_iff_eq, hget] at hr
  generalize readerIdx ls i n = j at hr hj3
  generalize hlf : widenTo n (goLayout l.toList) = lf at hr hx
  rcases hr with ⟨hm, hf⟩ | ⟨⟨⟨hfr, hj⟩, hv⟩, hname⟩
  · exact absurd (h0 (by simpa using hf)) (hn (by simpa using hm))
  obtain ⟨⟨hsd, hpre⟩, hsplit⟩ := hv (tzv w) (mem_tzvs _)
  have hj' : (layoutsOf ls)[j]? = some (reader (n != 3) lf) := by
    cases hlj : (layoutsOf ls)[j]? with
    | none => rw [hlj] at hj; cases hj
    | some lr =>
      rw [hlj] at hj
      exact congrArg some ((List.map_inj_right elemCode_inj).mp (Option.some.inj hj))
  have hfl := fracOK_of lf hfr
  have hshape := shape_format w hb lf hfl
  have hhead : (shapeOf (format lf w)).head? = some none := by rw [hshape]; exact hsd
  rw [trimPrefix_digit _ _ hhead hp]
  refine ⟨j, parseFirst_at _ _ j _ w hj' ?_ (parseWith_reads _ lf hfl w hb hx hsplit), ?_, fun h => hj3 (hplain h)⟩
  · intro lk hlk
    have : splitW lk (shapeOf (format lf w)) = none := by rw [hshape]; simpa using hpre lk hlk
    simp [parseWith, this]
  · by_cases hz : w.nanos = 0
    · -- no sub-second part: three digits, the layout reads itself, `widenLayout` is the identity
      have hn3 : n = 3 := Classical.not_not.mp fun h => hn h hz
      rw [hj3 hn3, hget]; simp [widenLayout, hz]
    · rw [widenLayout_nanos _ w subSecond (by simp [hz, subSecond])]
      rcases hname with hname | hname
      · exact absurd (h0 (by simpa using hname)) hz
      · exact hname

end FP.Lemmas.Conv
