/-
  FP.Lemmas.Heap — FP.Model.Heap: a write to one array or the allocation of a new one leaves the other arrays as they
  were, so `append` to a slice on an array with id ≥ n changes no array with id < n (C03 calls those the caller's).
-/
import FP.Model.Heap
namespace FP.Lemmas.Heap
open FP.Model

theorem read_set_other (h : Heap) (a b : Nat) (l : List Nat) (hne : a ≠ b) :
    Heap.read (h.set a l) b = Heap.read h b := by
  simp [Heap.read, List.getD, hne]

theorem read_append_old (h : Heap) (l : List Nat) (b : Nat) (hb : b < h.length) :
    Heap.read (h ++ [l]) b = Heap.read h b := by
  simp [Heap.read, List.getD, List.getElem?_append_left hb]

theorem length_le_appendS (h : Heap) (s : Slice) (x : Nat) : h.length ≤ (appendS h s x).1.length := by
  unfold appendS; split <;> simp

theorem appendS_preserves_below (h : Heap) (s : Slice) (x n : Nat) (hn : n ≤ h.length) (hs : ¬ s.arr < n) :
    (∀ a, a < n → Heap.read (appendS h s x).1 a = Heap.read h a) ∧ ¬ (appendS h s x).2.arr < n := by
  unfold appendS
  by_cases hc : s.len < s.cap
  · simp only [hc, if_true]
    exact ⟨fun a ha => read_set_other h s.arr a _ (by omega), hs⟩
  · simp only [hc, if_false]
    exact ⟨fun a ha => read_append_old h _ a (by omega), by omega⟩

end FP.Lemmas.Heap
