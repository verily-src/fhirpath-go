/-
  FP.Lemmas.DecText — shopspring `Decimal.String()` then `NewFromString` gives back a decimal of the
  same value, for every coefficient and every exponent an int32 can hold (`render_spec`,
  `parseDecGo_renderDec`); the decimal regular expression of conversion.go accepts every rendering,
  and the quantity one (`matchQuantity`, cut into `mqBody`, `mqFrac`, `mqTail`) a rendering followed
  by a blank and a word.
-/
import FP.Lemmas.Text
import FP.Model.Conv
import FP.Lemmas.Dec
namespace FP.Lemmas.DecText
open FP.Model FP.Model.Text FP.Model.Conv FP.Lemmas.Text

theorem dropWhile_zeros (l : S) : ∃ m, l = List.replicate m '0' ++ l.dropWhile (· == '0') := by
  induction l with
  | nil => exact ⟨0, rfl⟩
  | cons c r ih =>
    by_cases h : c = '0'
    · obtain ⟨m, hm⟩ := ih
      exact ⟨m + 1, by simp only [h, List.dropWhile_cons, beq_self_eq_true, if_true, List.replicate_succ, List.cons_append, ← hm]⟩
    · exact ⟨0, by simp [h]⟩

theorem trimZeros_spec (s : S) : ∃ m, s = trimZeros s ++ List.replicate m '0' ∧ s.length = (trimZeros s).length + m := by
  obtain ⟨m, hm⟩ := dropWhile_zeros s.reverse
  have hs : s = trimZeros s ++ List.replicate m '0' := by
    have := congrArg List.reverse hm
    rwa [List.reverse_reverse, List.reverse_append, List.reverse_replicate] at this
  exact ⟨m, hs, by simpa using congrArg List.length hs⟩

theorem allDigits_trim (s : S) (h : s.all isDigit = true) : (trimZeros s).all isDigit = true := by
  rw [List.all_eq_true] at h ⊢
  intro x hx
  unfold trimZeros at hx
  rw [List.mem_reverse] at hx
  have := (List.dropWhile_suffix (fun x => x == '0')).subset hx
  exact h x (List.mem_reverse.mp this)

theorem digitsVal_trail (a : S) (m : Nat) : digitsVal (a ++ List.replicate m '0') = digitsVal a * 10 ^ m := by
  rw [digitsVal_append, List.length_replicate, digitsVal_replicate_zero, Nat.add_zero]

theorem absent_int_text (p : Char → Bool) (hp : ∀ c, isDigit c = true → p c = false) (hm : p '-' = false)
    (neg : Bool) (b : S) (hd : b.all isDigit = true) : ∀ c ∈ signS neg ++ b, p c = false := by
  intro c hc
  rcases List.mem_append.mp hc with hc | hc
  · cases neg <;> simp [signS] at hc; rw [hc]; exact hm
  · exact hp c (List.all_eq_true.mp hd c hc)

theorem absent_frac_text (p : Char → Bool) (hp : ∀ c, isDigit c = true → p c = false) (hm : p '-' = false)
    (hdot : p '.' = false) (neg : Bool) (ip fp : S) (hd : ip.all isDigit = true) (hf : fp.all isDigit = true) :
    ∀ c ∈ signS neg ++ ip ++ '.' :: fp, p c = false := by
  intro c hc
  rcases List.mem_append.mp hc with hc | hc
  · exact absent_int_text p hp hm neg ip hd c hc
  · rcases List.mem_cons.mp hc with rfl | hc
    · exact hdot
    · exact hp c (List.all_eq_true.mp hf c hc)

def isE (c : Char) : Bool := c == 'E' || c == 'e'
def isDot (c : Char) : Bool := c == '.'

theorem isE_digit (c : Char) (h : isDigit c = true) : isE c = false := by
  obtain ⟨-, -, -, h1, h2⟩ := digit_not_sign c h; simp [isE, h1, h2]
theorem isDot_digit (c : Char) (h : isDigit c = true) : isDot c = false := by
  obtain ⟨-, -, h1, -, -⟩ := digit_not_sign c h; simp [isDot, h1]

theorem filter_dot_nil (s : S) (h : ∀ c ∈ s, isDot c = false) : s.filter (· == '.') = [] := by
  rw [List.filter_eq_nil_iff]; intro c hc; have := h c hc; simpa [isDot] using this

theorem parse_int_text (neg : Bool) (ip : S) (hne : ip ≠ []) (hd : ip.all isDigit = true) :
    parseDecGo (signS neg ++ ip) = some ⟨signed neg (digitsVal ip), 0⟩ := by
  have hE : indexWhere (fun c => c == 'E' || c == 'e') (signS neg ++ ip) = none :=
    indexWhere_none _ _ (absent_int_text isE isE_digit (by decide) neg ip hd)
  have hdot := absent_int_text isDot isDot_digit (by decide) neg ip hd
  have hD : indexWhere (· == '.') (signS neg ++ ip) = none := indexWhere_none _ _ hdot
  have hB := parseBig_signed neg ip hne hd
  unfold parseDecGo
  simp only [hE, hD, filter_dot_nil _ hdot, hB, List.length_nil]
  simp

theorem parse_frac_text (neg : Bool) (ip fp : S) (hne : ip ≠ []) (hd : ip.all isDigit = true)
    (hf : fp.all isDigit = true) (hl : fp.length ≤ 2147483648) :
    parseDecGo (signS neg ++ ip ++ '.' :: fp) = some ⟨signed neg (digitsVal (ip ++ fp)), -(fp.length : Int)⟩ := by
  have hE : indexWhere (fun c => c == 'E' || c == 'e') (signS neg ++ ip ++ '.' :: fp) = none :=
    indexWhere_none _ _ (absent_frac_text isE isE_digit (by decide) (by decide) neg ip fp hd hf)
  have hdot := absent_int_text isDot isDot_digit (by decide) neg ip hd
  have hD : indexWhere (· == '.') (signS neg ++ ip ++ '.' :: fp) = some (signS neg ++ ip).length :=
    indexWhere_hit _ _ _ _ hdot (by decide)
  have hF : ((signS neg ++ ip ++ '.' :: fp).filter (· == '.')).length = 1 := by
    rw [List.filter_append, filter_dot_nil _ hdot, List.filter_cons_of_pos (by decide),
      filter_dot_nil _ fun c hc => isDot_digit c (List.all_eq_true.mp hf c hc)]
    rfl
  have hB := parseBig_signed neg (ip ++ fp) (by simp [hne]) (by simp [List.all_append, hd, hf])
  have hdrop : (signS neg ++ ip ++ '.' :: fp).drop ((signS neg ++ ip).length + 1) = fp := by
    rw [← List.drop_drop, List.drop_left]; rfl
  unfold parseDecGo
  simp only [hE, hD, hF, List.take_left, hdrop]
  rw [List.append_assoc, hB]
  -- what `simp` leaves is the int32 range test on the exponent `-(fp.length)`, which `hl` passes
  simp
  omega

theorem parse_text (neg : Bool) (ip fp : S) (hne : ip ≠ []) (hd : ip.all isDigit = true)
    (hf : fp.all isDigit = true) (hl : fp.length ≤ 2147483648) :
    parseDecGo (signS neg ++ ip ++ (if fp.isEmpty then [] else '.' :: fp))
      = some ⟨signed neg (digitsVal (ip ++ fp)), -(fp.length : Int)⟩ := by
  cases fp with
  | nil => simpa using parse_int_text neg ip hne hd
  | cons c r => exact parse_frac_text neg ip (c :: r) hne hd hf hl

theorem coeff_of_abs (c : Int) (a m : Nat) (hv : a * 10 ^ m = c.natAbs) :
    c = signed (decide (c < 0)) a * (10 : Int) ^ m := by
  have hv' : (a : Int) * (10 : Int) ^ m = (c.natAbs : Int) := by rw [← hv]; simp
  unfold signed
  by_cases hn : c < 0
  · simp only [hn, decide_true, if_true, Int.neg_mul, hv']; omega
  · simp only [hn, decide_false, Bool.false_eq_true, if_false, hv']; omega

/-- the integer digits and the `k` fraction digits as `renderDec` (shopspring `String()`) cuts them
    out of the digits `str` of the coefficient -/
def intPart (str : S) (k : Nat) : S := if k < str.length then str.take (str.length - k) else ['0']
def fracPart (str : S) (k : Nat) : S :=
  if k < str.length then str.drop (str.length - k) else List.replicate (k - str.length) '0' ++ str

theorem renderDec_neg (d : Dec) (h : ¬ 0 ≤ d.exp) : renderDec d =
    (let fp' := trimZeros (fracPart (natDigits d.coeff.natAbs) (-d.exp).toNat)
     let number := if fp'.isEmpty then intPart (natDigits d.coeff.natAbs) (-d.exp).toNat
       else intPart (natDigits d.coeff.natAbs) (-d.exp).toNat ++ '.' :: fp'
     if d.coeff < 0 then '-' :: number else number) := by
  unfold renderDec; rw [if_neg h]; rfl

theorem split_digits (str : S) (k : Nat) (had : str.all isDigit = true) :
    intPart str k ≠ [] ∧ (intPart str k).all isDigit = true ∧ (fracPart str k).all isDigit = true ∧
      (fracPart str k).length = k ∧ digitsVal (intPart str k ++ fracPart str k) = digitsVal str := by
  unfold intPart fracPart
  by_cases hc : k < str.length
  · simp only [hc, if_true]
    refine ⟨fun h0 => ?_, Lists.all_of_subset had fun _ => List.mem_of_mem_take,
      Lists.all_of_subset had fun _ => List.mem_of_mem_drop, ?_, ?_⟩
    · have := congrArg List.length h0; simp at this; omega
    · simp; omega
    · rw [List.take_append_drop]
  · simp only [hc, if_false]
    refine ⟨by simp, by decide, ?_, ?_, ?_⟩
    · simp only [List.all_append, allDigits_replicate, had, Bool.and_self]
    · simp; omega
    · exact digitsVal_zeros (k - str.length + 1) str

/-- a rendering has the form the two regular expressions accept, and read with that many fraction
    digits it has the value of `d` -/
theorem render_spec (d : Dec) :
    ∃ neg : Bool, ∃ ip fp : S, ip ≠ [] ∧ ip.all isDigit = true ∧ fp.all isDigit = true ∧
      renderDec d = signS neg ++ ip ++ (if fp.isEmpty then [] else '.' :: fp) ∧
      fp.length ≤ (-d.exp).toNat ∧
      Dec.eq ⟨signed neg (digitsVal (ip ++ fp)), -(fp.length : Int)⟩ d = true := by
  by_cases h0 : 0 ≤ d.exp
  · refine ⟨decide (d.coeff * (10 : Int) ^ d.exp.toNat < 0), natDigits (d.coeff * (10 : Int) ^ d.exp.toNat).natAbs, [],
      natDigits_ne_nil _, allDigits_natDigits _, rfl, ?_, by simp, ?_⟩
    · unfold renderDec; simp only [h0, if_true, List.isEmpty_nil, List.append_nil]
      exact renderInt_signed _
    · rw [List.append_nil, digitsVal_natDigits, signed_natAbs]
      have := (eq_scaled d.coeff d.exp d.exp.toNat).2
      rwa [show d.exp - (d.exp.toNat : Int) = 0 by omega] at this
  · obtain ⟨hne, hd, hf, hlen, hval⟩ :=
      split_digits (natDigits d.coeff.natAbs) (-d.exp).toNat (allDigits_natDigits _)
    rw [renderDec_neg d h0]
    generalize intPart (natDigits d.coeff.natAbs) (-d.exp).toNat = ip at hne hd hval
    generalize fracPart (natDigits d.coeff.natAbs) (-d.exp).toNat = fp at hf hlen hval
    obtain ⟨m, hm, hl⟩ := trimZeros_spec fp
    refine ⟨decide (d.coeff < 0), ip, trimZeros fp, hne, hd, allDigits_trim fp hf, ?_, by omega, ?_⟩
    · by_cases hneg : d.coeff < 0 <;> by_cases he : (trimZeros fp).isEmpty <;> simp [hneg, he, signS]
    · -- the coefficient is the digits read, times the power of ten of the trimmed zeros
      have hv : digitsVal (ip ++ trimZeros fp) * 10 ^ m = d.coeff.natAbs := by
        rw [← digitsVal_trail, List.append_assoc, ← hm, hval, digitsVal_natDigits]
      have := (eq_scaled (signed (decide (d.coeff < 0)) (digitsVal (ip ++ trimZeros fp))) (-((trimZeros fp).length : Int)) m).1
      rwa [← coeff_of_abs d.coeff _ m hv, show -((trimZeros fp).length : Int) - (m : Int) = d.exp by omega] at this

/-- the exponent range is shopspring's own (an int32) -/
theorem parseDecGo_renderDec (d : Dec) (hexp : -2147483648 ≤ d.exp ∧ d.exp ≤ 2147483647) :
    ∃ d', parseDecGo (renderDec d) = some d' ∧ Dec.eq d' d = true := by
  obtain ⟨neg, ip, fp, hne, hd, hf, hr, hl, heq⟩ := render_spec d
  exact ⟨_, by rw [hr]; exact parse_text neg ip fp hne hd hf (by omega), heq⟩

/-- the form of a rendering, for the two regular expressions: after the sign comes a digit
    (`hp`, `hm` are what `digit_not_sign` asks `simp` to have) -/
theorem render_form (d : Dec) : ∃ (neg : Bool) (c : Char) (r fp : S), c ≠ '+' ∧ c ≠ '-' ∧
    (c :: r).all isDigit = true ∧ fp.all isDigit = true ∧
    renderDec d = signS neg ++ (c :: r) ++ (if fp.isEmpty then [] else '.' :: fp) := by
  obtain ⟨neg, ip, fp, hne, hd, hf, hr, -⟩ := render_spec d
  obtain ⟨c, r, rfl⟩ := List.exists_cons_of_ne_nil hne
  obtain ⟨hp, hm, -⟩ := digit_not_sign c (all_head hd)
  exact ⟨neg, c, r, fp, hp, hm, hd, hf, hr⟩

theorem matchesDecimal_render (d : Dec) : matchesDecimal (renderDec d) = true := by
  obtain ⟨neg, c, r, fp, hp, hm, hd, hf, hr⟩ := render_form d
  have htw := fun rest => Lists.takeWhile_stop isDigit (c :: r) rest (List.all_eq_true.mp hd)
  rw [hr]; unfold matchesDecimal
  cases fp with
  | nil =>
    have : (c :: r).takeWhile isDigit = c :: r := by simpa using htw [] (by simp)
    cases neg <;> simp [signS, hp, hm, this]
  | cons x fs =>
    have : (c :: (r ++ '.' :: x :: fs)).takeWhile isDigit = c :: r := htw ('.' :: x :: fs) (Lists.stops_cons (by decide))
    cases neg <;> simp [signS, hp, hm, this, hf]

theorem toDecimalV_render (d d' : Dec) (hp : parseDecGo (renderDec d) = some d') :
    toDecimalV (.str (renderDec d)) = .ok (some (.dec d')) := by
  simp [toDecimalV, matchesDecimal_render d, hp]

/-- the optional `(\.\d+)` of the quantity expression, at the head of `r1` -/
def mqFrac (r1 : S) : S :=
  match r1 with
  | '.' :: r => let fs := r.takeWhile isDigit; if fs.isEmpty then [] else '.' :: fs
  | _ => []

/-- the quantity expression after value and white space: the end, a quoted unit or a bare word -/
def mqTail (value r3 : S) : Option (S × S × S) :=
  match r3 with
  | [] => some (value, [], [])
  | '\'' :: r =>
    let u := r.takeWhile (· != '\'')
    if u.isEmpty then none else
    if r.drop u.length == ['\''] then some (value, u, []) else none
  | _ =>
    let t := r3.takeWhile isAlpha
    if t.isEmpty then none else
    if r3.drop t.length == [] then some (value, [], t) else none

/-- `matchQuantity` after the sign has been looked at -/
def mqBody (sign r0 : S) : Option (S × S × S) :=
  let ds := r0.takeWhile isDigit
  if ds.isEmpty then none else
  let r1 := r0.drop ds.length
  mqTail (sign ++ ds ++ mqFrac r1) ((r1.drop (mqFrac r1).length).dropWhile isSpaceRe)

theorem matchQuantity_eq (s : S) :
    matchQuantity s = mqBody (match s with | '+' :: _ => ['+'] | '-' :: _ => ['-'] | _ => [])
      (s.drop (match s with | '+' :: _ => ['+'] | '-' :: _ => ['-'] | _ => [] : S).length) := rfl

theorem alpha_plain (c : Char) (h : isAlpha c = true) : c ≠ '\'' ∧ isSpaceRe c = false := by
  refine ⟨?_, ?_⟩
  · intro hc; rw [hc] at h; exact absurd h (by decide)
  · cases hs : isSpaceRe c with
    | false => rfl
    | true =>
      simp only [isSpaceRe, Bool.or_eq_true, beq_iff_eq] at hs
      rcases hs with (((hs | hs) | hs) | hs) | hs <;> (rw [hs] at h; exact absurd h (by decide))

theorem mqTail_word (value : S) (a : Char) (t : S) (hu : (a :: t).all isAlpha = true) :
    mqTail value ((' ' :: a :: t).dropWhile isSpaceRe) = some (value, [], a :: t) := by
  obtain ⟨hq, hs⟩ := alpha_plain a (all_head hu)
  have h1 : isSpaceRe ' ' = true := by decide
  simp [mqTail, h1, hs, hq, Lists.takeWhile_all isAlpha _ (List.all_eq_true.mp hu)]

theorem mqFrac_space (u : S) : mqFrac (' ' :: u) = [] := rfl
theorem mqFrac_dot (fp u : S) (hf : fp.all isDigit = true) (hne : fp.isEmpty = false) :
    mqFrac ('.' :: (fp ++ ' ' :: u)) = '.' :: fp := by
  simp [mqFrac, Lists.takeWhile_stop isDigit fp (' ' :: u) (List.all_eq_true.mp hf) (Lists.stops_cons (by decide)), hne]

theorem mqBody_word (sign ip fp : S) (a : Char) (t : S) (hne : ip ≠ []) (hd : ip.all isDigit = true)
    (hf : fp.all isDigit = true) (hu : (a :: t).all isAlpha = true) :
    mqBody sign (ip ++ (if fp.isEmpty then [] else '.' :: fp) ++ ' ' :: a :: t)
      = some (sign ++ ip ++ (if fp.isEmpty then [] else '.' :: fp), [], a :: t) := by
  have hipe : ip.isEmpty = false := by cases ip <;> simp_all
  have htw := fun rest => Lists.takeWhile_stop isDigit ip rest (List.all_eq_true.mp hd)
  unfold mqBody
  by_cases he : fp.isEmpty
  · simp only [he, if_true, List.append_nil, htw (' ' :: a :: t) (Lists.stops_cons (by decide)), List.drop_left, hipe,
      Bool.false_eq_true, if_false, mqFrac_space, List.length_nil, List.drop_zero]
    exact mqTail_word _ a t hu
  · have he' : fp.isEmpty = false := by simpa using he
    have hdr2 : ('.' :: (fp ++ ' ' :: a :: t)).drop ('.' :: fp).length = ' ' :: a :: t := by simp
    simp only [he', Bool.false_eq_true, if_false, List.append_assoc, List.cons_append,
      htw ('.' :: (fp ++ ' ' :: a :: t)) (Lists.stops_cons (by decide)), List.drop_left, hipe, mqFrac_dot fp (a :: t) hf he', hdr2]
    exact mqTail_word _ a t hu

theorem matchQuantity_render_word (d : Dec) (a : Char) (t : S) (hu : (a :: t).all isAlpha = true) :
    matchQuantity (renderDec d ++ ' ' :: a :: t) = some (renderDec d, [], a :: t) := by
  obtain ⟨neg, c, r, fp, hp, hm, hd, hf, hr⟩ := render_form d
  rw [matchQuantity_eq, hr]
  cases neg
  · have := mqBody_word [] (c :: r) fp a t nofun hd hf hu
    simpa [signS, hp, hm] using this
  · have := mqBody_word ['-'] (c :: r) fp a t nofun hd hf hu
    simpa [signS] using this

theorem indexWhere_space_render (d : Dec) (u : S) :
    indexWhere (· == ' ') (renderDec d ++ ' ' :: u) = some (renderDec d).length := by
  apply indexWhere_hit _ _ _ _ _ (by decide)
  obtain ⟨neg, ip, fp, -, hd, hf, hr, -⟩ := render_spec d
  have hdig : ∀ c, isDigit c = true → (c == ' ') = false := fun c hc => by
    have : c ≠ ' ' := fun e => by rw [e] at hc; exact absurd hc (by decide)
    simpa using this
  rw [hr]
  cases fp with
  | nil => simpa using absent_int_text (· == ' ') hdig (by decide) neg ip hd
  | cons x fs => exact absent_frac_text (· == ' ') hdig (by decide) (by decide) neg ip (x :: fs) hd hf

theorem trim_quotes_word (u : S) (hu : u.all isAlpha = true) :
    ((u.dropWhile (· == '\'')).reverse.dropWhile (· == '\'')).reverse = u := by
  have hq : ∀ c ∈ u, (c == '\'') = false := by
    intro c hc; rw [List.all_eq_true] at hu
    have := (alpha_plain c (hu c hc)).1; simpa using this
  have h1 : ∀ l : S, (∀ c ∈ l, (c == '\'') = false) → l.dropWhile (· == '\'') = l := by
    intro l hl; cases l with
    | nil => rfl
    | cons c r => simp [hl c (List.mem_cons_self ..)]
  rw [h1 u hq, h1 u.reverse (fun c hc => hq c (List.mem_reverse.mp hc)), List.reverse_reverse]

end FP.Lemmas.DecText
