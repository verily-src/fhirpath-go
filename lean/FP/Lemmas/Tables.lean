/-
  FP.Lemmas.Tables — two tables that list the same keys in the same order are compared once, row by row; membership,
  equal lengths and successful lookups then follow by argument, where a sweep of its own costs a lookup per row
  (the comparison fails on a reordered table for which the properties would still hold).  And the facts that two
  properties each state of one table, evaluated once.
-/
import FP.Model.Wrappers
import FP.Gen.Consts
import FP.Model.Empty
import FP.Model.LayoutPrec
import FP.Gen.Layouts
import FP.Lemmas.Bytes
namespace FP.Lemmas.Tables
open FP.Model FP.Gen.Schema FP.Gen.Consts

theorem exists_of_map_eq {α β γ} {l₁ : List α} {l₂ : List β} {f : α → γ} {g : β → γ}
    (h : l₁.map f = l₂.map g) {a : α} (ha : a ∈ l₁) : ∃ b ∈ l₂, g b = f a :=
  List.mem_map.mp (h ▸ List.mem_map_of_mem ha)

theorem all_any_of_map_eq {α β γ} [BEq γ] [LawfulBEq γ] {l₁ : List α} {l₂ : List β} {f : α → γ} {g : β → γ}
    (h : l₁.map f = l₂.map g) : l₁.all (fun a => l₂.any (fun b => g b == f a)) = true := by
  simp only [List.all_eq_true, List.any_eq_true, beq_iff_eq]
  exact fun a ha => exists_of_map_eq h ha

theorem resourceTypes_eq_oneof : resourceTypes.map (·.name) = containedOneof.map (·.1) := by decide +kernel

theorem typeConsts_eq_resourceTypes : typeConsts.map (·.2) = resourceTypes.map (·.name) := by decide +kernel

def snakeOf (cs : List Char) : String := String.ofList ((snake2 false (snake1 false cs)).map Char.toLower)

theorem toSnakeCase_eq (s : String) : toSnakeCase s = snakeOf s.toList := rfl

theorem oneof_is_snake : containedOneof.all (fun p => toSnakeCase p.1 == p.2) = true := by
  -- swept on the bytes of the names (FP.Lemmas.Bytes): the plain sweep costs 2.6 times as much
  have h : containedOneof.all (fun p => Bytes.isAscii p.1 && snakeOf (Bytes.asciiChars p.1) == p.2) = true := by
    decide +kernel
  refine List.all_eq_true.mpr fun p hp => ?_
  rw [toSnakeCase_eq]
  exact Bytes.of_ascii (P := fun cs => snakeOf cs == p.2) (List.all_eq_true.mp h p hp)

theorem registered_of_mem {r : TypeRow} (h : r ∈ resourceTypes) : isValidResourceType r.name = true :=
  List.any_eq_true.mpr ⟨r, h, beq_self_eq_true _⟩

theorem registered_in_oneof {n : String} (h : isValidResourceType n = true) : (n, toSnakeCase n) ∈ containedOneof := by
  obtain ⟨r, hr, hn⟩ := List.any_eq_true.mp h
  obtain ⟨p, hp, hpn⟩ := exists_of_map_eq resourceTypes_eq_oneof hr
  have hs : toSnakeCase p.1 = p.2 := beq_iff_eq.mp (List.all_eq_true.mp oneof_is_snake p hp)
  rw [← beq_iff_eq.mp hn, ← hpn, hs]
  exact hp

theorem containedField_of_registered {n : String} (h : isValidResourceType n = true) :
    containedField n = some (toSnakeCase n) := by
  have : containedOneof.any (fun p => p.2 == toSnakeCase n) = true :=
    List.any_eq_true.mpr ⟨_, registered_in_oneof h, beq_self_eq_true _⟩
  simp [containedField, this]

theorem wrap_registered (r : Res0) (h : isValidResourceType r.type = true) : ∃ c, wrap r = .ok c ∧ unwrap c = r :=
  ⟨(toSnakeCase r.type, r), by simp [wrap, containedField_of_registered h], rfl⟩

/-- C07 states the two conjuncts apart; one kernel call works out `onEmpty e` once for both -/
theorem onEmpty_classified :
    (FP.Gen.FuncTable.baseTable ++ FP.Gen.FuncTable.experimentalTable).all (fun e =>
      e.impl == "unimplemented" || isAggregate e.name || onEmpty e == some "ok:[]") = true ∧
    (FP.Gen.FuncTable.baseTable ++ FP.Gen.FuncTable.experimentalTable).all (fun e => onEmpty e != some "unknown") = true := by
  decide +kernel

open FP.Gen.Layouts in
/-- `+ 3`: `timeMap` counts from the hour (0 hour … 2 second), `impliedPrecision` on the date-time scale, where the
    hour is 3 -/
theorem layout_precisions :
    dateMap.all (fun p => p.2 == Text.impliedPrecision (Text.goLayout p.1.toList)) = true ∧
    dateTimeMap.all (fun p => p.2 == Text.impliedPrecision (Text.goLayout p.1.toList)) = true ∧
    timeMap.all (fun p => p.2 + 3 == Text.impliedPrecision (Text.goLayout p.1.toList)) = true := by decide +kernel

end FP.Lemmas.Tables
