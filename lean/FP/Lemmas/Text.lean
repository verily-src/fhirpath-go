/-
  FP.Lemmas.Text — `time.Format` then `time.Parse` on the modelled layouts: per layout element the
  piece written, its shape and what `readElem` reads from it; then a rendering read by its own layout
  or by the sibling without fraction element (`parseWith_reads`) and the first-match loop
  (`parseFirst_at`).  The digit-string lemmas of this namespace are in FP.Lemmas.Digits.
-/
import FP.Lemmas.Digits
namespace FP.Lemmas.Text
open FP.Model.Text

theorem shapeOf_allDigits (s : S) (h : s.all isDigit = true) : shapeOf s = List.replicate s.length none := by
  induction s with
  | nil => rfl
  | cons c r ih =>
    simp only [List.all_cons, Bool.and_eq_true] at h
    obtain ⟨h1, h2⟩ := h
    have := ih h2
    simp only [shapeOf] at this
    simp [shapeOf, symOf, h1, List.replicate_succ, this]

theorem shapeOf_append (a b : S) : shapeOf (a ++ b) = shapeOf a ++ shapeOf b := by simp [shapeOf]

/-- the zone piece is `Z`, `+hh:mm` or `-hh:mm`: all that the shape of a rendering depends on in the reading -/
inductive TZV | z | plus | minus deriving DecidableEq, Repr

def tzv (w : Wall) : TZV := if w.offset = 0 then .z else if w.offset < 0 then .minus else .plus

/-- what a Go `time.Time` of the years 0..9999 shows, its zone offset whole minutes within a day -/
structure Bounded (w : Wall) : Prop where
  year : 0 ≤ w.year ∧ w.year ≤ 9999
  month : 1 ≤ w.month ∧ w.month ≤ 12
  day : 1 ≤ w.day ∧ w.day ≤ daysIn w.month w.year
  hour : 0 ≤ w.hour ∧ w.hour < 24
  minute : 0 ≤ w.minute ∧ w.minute < 60
  second : 0 ≤ w.second ∧ w.second < 60
  nanos : 0 ≤ w.nanos ∧ w.nanos < 1000000000
  offset : w.offset % 60 = 0 ∧ -86400 < w.offset ∧ w.offset < 86400

def elemShape (v : TZV) : Elem → List Sym
  | .year4 => [none, none, none, none]
  | .month2 | .day2 | .hour | .minute2 | .second2 => [none, none]
  | .frac0 n => some '.' :: List.replicate n none
  | .tzColon => match v with
    | .z => [some 'Z']
    | .plus => [some '+', none, none, some ':', none, none]
    | .minus => [some '-', none, none, some ':', none, none]
  | .lit c => [symOf c]

theorem daysIn_le (m y : Int) : daysIn m y ≤ 31 := by
  unfold daysIn; split <;> (try split) <;> omega

/-- the six numeric fields fit their widths -/
theorem Bounded.widths {w : Wall} (hb : Bounded w) :
    w.year.toNat < 10 ^ 4 ∧ w.month.toNat < 10 ^ 2 ∧ w.day.toNat < 10 ^ 2 ∧ w.hour.toNat < 10 ^ 2 ∧
      w.minute.toNat < 10 ^ 2 ∧ w.second.toNat < 10 ^ 2 := by
  have := daysIn_le w.month w.year
  have := hb.year; have := hb.month; have := hb.day; have := hb.hour; have := hb.minute; have := hb.second
  refine ⟨?_, ?_, ?_, ?_, ?_, ?_⟩ <;> omega

theorem shape_pad (w n : Nat) (h : n < 10 ^ w) (hw : 1 ≤ w) : shapeOf (padNat w n) = List.replicate w none := by
  rw [shapeOf_allDigits _ (padNat_allDigits w n), padNat_length w n h hw]

theorem formatElem_frac (w : Wall) (hb : Bounded w) (n : Nat) (h9 : n ≤ 9) :
    ∃ ds : S, formatElem w (.frac0 n) = '.' :: ds ∧ ds.all isDigit = true ∧ ds.length = n ∧
      (digitsVal ds : Int) = w.nanos / pow10 (9 - n) := by
  have hn := hb.nanos
  have hl : (padNat 9 w.nanos.toNat).length = 9 := padNat_length 9 _ (by omega) (by omega)
  have had := padNat_allDigits 9 w.nanos.toNat
  refine ⟨_, rfl, Lists.all_of_subset had fun _ => List.mem_of_mem_take, by simp [hl]; omega, ?_⟩
  rw [digitsVal_take _ had, padNat_val, hl]
  unfold pow10; rw [Int.natCast_ediv]; simp [Int.toNat_of_nonneg hn.1]

/-- the zone piece of a non-zero offset; `shape_formatElem` uses the first five conjuncts (which
    characters are digits), `readElem_formatElem` the last four (what `readTz` computes from them) -/
theorem formatElem_tz (w : Wall) (hb : Bounded w) (h0 : w.offset ≠ 0) :
    ∃ a b c d : Char, isDigit a = true ∧ isDigit b = true ∧ isDigit c = true ∧ isDigit d = true ∧
      formatElem w .tzColon = [if w.offset < 0 then '-' else '+', a, b, ':', c, d] ∧
      (digitsVal [a, b] : Int) ≤ 24 ∧ (digitsVal [c, d] : Int) ≤ 60 ∧
      w.offset = (if w.offset < 0 then -1 else 1) * (((digitsVal [a, b] : Int) * 60 + (digitsVal [c, d] : Int)) * 60) := by
  have ho := hb.offset
  have htd : Int.tdiv w.offset 60 = w.offset / 60 := Int.tdiv_eq_ediv_of_dvd (by omega)
  have hz : (w.offset / 60 < 0) ↔ w.offset < 0 := by omega
  obtain ⟨a, b, hab, ha, hb', vab⟩ := two_digits ((w.offset / 60).natAbs / 60) (by omega)
  obtain ⟨c, d, hcd, hc, hd, vcd⟩ := two_digits ((w.offset / 60).natAbs % 60) (by omega)
  refine ⟨a, b, c, d, ha, hb', hc, hd, ?_, ?_⟩
  · simp only [formatElem, h0, if_false, htd, hz, hab, hcd]; rfl
  · rw [vab, vcd]
    by_cases hneg : w.offset < 0 <;> simp only [hneg, if_true, if_false] <;> omega

theorem shape_formatElem (w : Wall) (hb : Bounded w) (e : Elem) (he : ∀ n, e = .frac0 n → n ≤ 9) :
    shapeOf (formatElem w e) = elemShape (tzv w) e := by
  obtain ⟨hy, hmo, hdy, hh, hmi, hs⟩ := hb.widths
  cases e with
  | year4 => exact shape_pad 4 _ hy (by decide)
  | month2 => exact shape_pad 2 _ hmo (by decide)
  | day2 => exact shape_pad 2 _ hdy (by decide)
  | hour => exact shape_pad 2 _ hh (by decide)
  | minute2 => exact shape_pad 2 _ hmi (by decide)
  | second2 => exact shape_pad 2 _ hs (by decide)
  | frac0 n =>
    obtain ⟨ds, hf, hds, hl, -⟩ := formatElem_frac w hb n (he n rfl)
    rw [hf, show '.' :: ds = ['.'] ++ ds from rfl, shapeOf_append, shapeOf_allDigits _ hds, hl]; rfl
  | tzColon =>
    by_cases h0 : w.offset = 0
    · simp [formatElem, elemShape, tzv, h0, shapeOf, symOf, isDigit]
    · obtain ⟨a, b, c, d, ha, hb', hc, hd, hf, -⟩ := formatElem_tz w hb h0
      have hs : isDigit '-' = false ∧ isDigit '+' = false ∧ isDigit ':' = false := by decide
      rw [hf]
      by_cases hneg : w.offset < 0 <;> simp [elemShape, tzv, h0, hneg, shapeOf, symOf, ha, hb', hc, hd, hs]
  | lit c => simp [formatElem, elemShape, shapeOf]

theorem length_formatElem (w : Wall) (hb : Bounded w) (e : Elem) (he : ∀ n, e = .frac0 n → n ≤ 9) :
    (formatElem w e).length = (elemShape (tzv w) e).length := by
  rw [← shape_formatElem w hb e he]; simp [shapeOf]

theorem splitBy_flatten (ps : List S) : splitBy (ps.map List.length) ps.flatten = ps := by
  induction ps with
  | nil => rfl
  | cons p r ih => simp [splitBy, ih]

/-- what `readElem e` yields on the piece `formatElem w e` -/
def assign (w : Wall) : Elem → List (Kind × Int)
  | .lit _ => []
  | .year4 => [(.year, w.year)]
  | .month2 => [(.month, w.month)]
  | .day2 => [(.day, w.day)]
  | .hour => [(.hour, w.hour)]
  | .minute2 => [(.minute, w.minute)]
  | .second2 => [(.second, w.second)]
  | .frac0 n => [(.nanos, w.nanos / pow10 (9 - n) * pow10 (9 - n))]
  | .tzColon => [(.offset, w.offset)]

theorem second_piece_length (w : Wall) (hb : Bounded w) : (formatElem w .second2).length = 2 :=
  length_formatElem w hb .second2 nofun

theorem readSecond_two (p : S) (hp : p.length = 2) :
    readSecond p = if (60 : Int) ≤ digitsVal p then none else some [(.second, (digitsVal p : Int))] := by
  unfold readSecond
  rw [List.take_of_length_le (by omega)]
  simp [hp]

theorem readSecond_more (p q : S) (hp : p.length = 2) (hq : q ≠ []) :
    readSecond (p ++ q) = if (60 : Int) ≤ digitsVal p then none
      else (parseNanos q).map fun ns => [(.second, (digitsVal p : Int)), (.nanos, ns)] := by
  have hlong : ¬ p.length + q.length ≤ p.length := by
    have := List.length_pos_iff.mpr hq; omega
  simp only [readSecond, ← hp, List.take_left, List.drop_left, List.length_append, if_neg hlong]

theorem parseNanos_digits (c : Char) (ds : S) (hne : ds ≠ []) (hd : ds.all isDigit = true) (hl : ds.length ≤ 9) :
    parseNanos (c :: ds) = some ((digitsVal ds : Int) * pow10 (9 - ds.length)) := by
  simp only [parseNanos]
  rw [List.take_of_length_le hl, atoiTime_digits _ hne hd]
  simp [Int.not_lt.mpr (Int.natCast_nonneg _)]

theorem readElem_formatElem (w : Wall) (hb : Bounded w) (e : Elem) (he : ∀ n, e = .frac0 n → 1 ≤ n ∧ n ≤ 9) :
    readElem e (formatElem w e) = some (assign w e) := by
  -- a numeric element writes `padNat` of its field, whose value is the field again (`padNat_val_int`);
  -- `Bounded` keeps it out of the range test of `readElem` (`if_neg`)
  cases e with
  | lit c => rfl
  | year4 => simp only [readElem, formatElem, assign, padNat_val_int _ hb.year.1]
  | month2 =>
    have hk := hb.month
    simp only [readElem, formatElem, assign, padNat_val_int _ (show 0 ≤ w.month by omega)]
    rw [if_neg (by simp; omega)]
  | day2 => simp only [readElem, formatElem, assign, padNat_val_int _ (show 0 ≤ w.day by have := hb.day; omega)]
  | hour =>
    have hk := hb.hour
    simp only [readElem, formatElem, assign, padNat_val_int _ hk.1]
    rw [if_neg (by omega)]
  | minute2 =>
    have hk := hb.minute
    simp only [readElem, formatElem, assign, padNat_val_int _ hk.1]
    rw [if_neg (by omega)]
  | second2 =>
    have hk := hb.second
    rw [readElem, readSecond_two _ (second_piece_length w hb)]
    simp only [formatElem, assign, padNat_val_int _ hk.1]
    rw [if_neg (by omega)]
  | frac0 n =>
    obtain ⟨h1, h9⟩ := he n rfl
    obtain ⟨ds, hf, hds, hl, hv⟩ := formatElem_frac w hb n h9
    simp only [readElem, assign, hf]
    rw [parseNanos_digits _ _ (fun h => by rw [h] at hl; simp at hl; omega) hds (by omega), hl, hv]; rfl
  | tzColon =>
    by_cases h0 : w.offset = 0
    · simp [formatElem, assign, readElem, h0, readTz]
    · obtain ⟨a, b, c, d, -, -, -, -, hf, h24, h60, hv⟩ := formatElem_tz w hb h0
      have hZ : ∀ s : Char, ([s, a, b, ':', c, d] == ['Z']) = false := fun s => by simp
      simp only [readElem, hf, readTz, hZ, assign, List.length_cons, List.length_nil, List.drop_succ_cons, List.drop_zero,
        List.take_succ_cons, List.take_zero, List.head?_cons]
      -- the three tests of `readTz`: the piece is `Z`; it has not six characters; hours above 24 or
      -- minutes above 60
      rw [if_neg (by simp), if_neg (by simp), if_neg (by simp; omega)]
      -- what is left is `hv` with the sign read off the first character
      by_cases hneg : w.offset < 0 <;> simp [hneg] at hv ⊢ <;> exact hv.symm

/-- the fraction elements of `l` have 1 to 9 digits, as those that `time.Format` writes -/
def FracOK (l : List Elem) : Prop := ∀ e ∈ l, ∀ n, e = .frac0 n → 1 ≤ n ∧ n ≤ 9

theorem FracOK.head {e : Elem} {r : List Elem} (h : FracOK (e :: r)) : ∀ n, e = .frac0 n → 1 ≤ n ∧ n ≤ 9 :=
  h e List.mem_cons_self
theorem FracOK.tail {e : Elem} {r : List Elem} (h : FracOK (e :: r)) : FracOK r :=
  fun e' h' => h e' (List.mem_cons_of_mem _ h')

theorem shape_format (w : Wall) (hb : Bounded w) (l : List Elem) (hl : FracOK l) :
    shapeOf (format l w) = l.flatMap (elemShape (tzv w)) := by
  induction l with
  | nil => rfl
  | cons e r ih =>
    simp only [format, List.flatMap_cons] at ih ⊢
    rw [shapeOf_append, shape_formatElem w hb e (fun n h => (hl.head n h).2), ih hl.tail]

theorem readAll_format (w : Wall) (hb : Bounded w) (l : List Elem) (hl : FracOK l) :
    readAll l (l.map (formatElem w)) = some (l.flatMap (assign w)) := by
  induction l with
  | nil => rfl
  | cons e r ih =>
    simp only [List.map_cons, readAll, List.flatMap_cons]
    rw [readElem_formatElem w hb e hl.head, ih hl.tail]
    rfl

theorem get_set (w : Wall) (k k' : Kind) (v : Int) : (w.set k v).get k' = if k' = k then v else w.get k' := by
  cases k <;> cases k' <;> simp [Wall.set, Wall.get]

theorem get_applyAll (f : Kind → Int) (as : List (Kind × Int)) (h : ∀ a ∈ as, a.2 = f a.1) (w0 : Wall) (k : Kind) :
    (applyAll as w0).get k = if as.any (fun a => a.1 == k) then f k else w0.get k := by
  induction as generalizing w0 with
  | nil => simp [applyAll]
  | cons a r ih =>
    have ha := h a (by simp)
    have hr := ih (fun a' h' => h a' (List.mem_cons_of_mem _ h')) (w0.set a.1 a.2)
    simp only [applyAll, List.foldl_cons] at hr ⊢
    rw [hr, get_set]
    by_cases hk : a.1 = k
    · have hb : (a.1 == k) = true := by simp [hk]
      simp only [List.any_cons, hb, Bool.true_or, if_true]
      rw [if_pos hk.symm, ha, hk]
      split <;> rfl
    · have hb : (a.1 == k) = false := by simp [hk]
      simp only [List.any_cons, hb, Bool.false_or]
      rw [if_neg (Ne.symm hk)]

theorem wall_ext_get (a b : Wall) (h : ∀ k, a.get k = b.get k) : a = b := by
  cases a; cases b
  have h1 := h .year; have h2 := h .month; have h3 := h .day; have h4 := h .hour
  have h5 := h .minute; have h6 := h .second; have h7 := h .nanos; have h8 := h .offset
  simp [Wall.get] at h1 h2 h3 h4 h5 h6 h7 h8
  simp [*]

/-- the layout can express the reading: every field it writes is written exactly (no truncation)
    and every field it does not write has the value `time.Parse` starts from -/
def Expressible (l : List Elem) (w : Wall) : Prop :=
  (∀ e ∈ l, ∀ a ∈ assign w e, a.2 = w.get a.1) ∧
  (∀ k, (∀ e ∈ l, ∀ a ∈ assign w e, a.1 ≠ k) → w.get k = Wall.zero.get k)

def kinds : List Kind := [.year, .month, .day, .hour, .minute, .second, .nanos, .offset]

instance (l : List Elem) (w : Wall) : Decidable (Expressible l w) :=
  decidable_of_iff ((∀ e ∈ l, ∀ a ∈ assign w e, a.2 = w.get a.1) ∧
      ∀ k ∈ kinds, (∀ e ∈ l, ∀ a ∈ assign w e, a.1 ≠ k) → w.get k = Wall.zero.get k)
    ⟨fun h => ⟨h.1, fun k => h.2 k (by cases k <;> simp [kinds])⟩, fun h => ⟨h.1, fun k _ => h.2 k⟩⟩

theorem applyAll_assign (l : List Elem) (w : Wall) (hx : Expressible l w) :
    applyAll (l.flatMap (assign w)) Wall.zero = w := by
  apply wall_ext_get
  intro k
  rw [get_applyAll w.get]
  · split
    · rfl
    · rename_i hany
      apply (hx.2 k _).symm
      intro e he a ha hk
      apply hany
      simp only [List.any_eq_true, List.mem_flatMap]
      exact ⟨a, ⟨e, he, ha⟩, by simp [hk]⟩
  · intro a ha
    simp only [List.mem_flatMap] at ha
    obtain ⟨e, he, hae⟩ := ha
    exact hx.1 e he a hae

/-! A rendering with six or nine fraction digits is not read back by the ".000" layout it was written
with (that wants exactly three digits) but by the sibling layout without fraction element, whose
seconds element swallows a fraction of any length. -/

/-- the seconds element followed by a fraction element (of `n` digits)? -/
def isSF (e : Elem) (r : List Elem) : Option Nat :=
  match e, r with
  | .second2, .frac0 n :: _ => some n
  | _, _ => none

theorem isSF_some {e : Elem} {r : List Elem} {n : Nat} (h : isSF e r = some n) :
    e = .second2 ∧ ∃ r', r = .frac0 n :: r' := by
  unfold isSF at h
  split at h
  · rename_i m r'; cases h; exact ⟨rfl, r', rfl⟩
  · cases h

/-- `l` without the fraction element behind its first seconds element -/
def dropFrac : List Elem → List Elem
  | [] => []
  | e :: r => if (isSF e r).isSome then e :: r.tail else e :: dropFrac r

/-- the pieces of a rendering of `l`, the seconds piece and the fraction piece of that first pair joined -/
def mergeL {α : Type} : List Elem → List (List α) → List (List α)
  | [], ps => ps
  | e :: r, ps =>
    if (isSF e r).isSome then (match ps with | p1 :: p2 :: ps' => (p1 ++ p2) :: ps' | _ => ps)
    else (match ps with | p :: ps' => p :: mergeL r ps' | [] => [])

theorem mergeL_flatten {α : Type} (l : List Elem) (ps : List (List α)) : (mergeL l ps).flatten = ps.flatten := by
  induction l generalizing ps with
  | nil => rfl
  | cons e r ih =>
    unfold mergeL
    by_cases h : (isSF e r).isSome
    · simp only [h, if_true]
      rcases ps with _ | ⟨p1, _ | ⟨p2, ps'⟩⟩ <;> simp
    · simp only [h]
      rcases ps with _ | ⟨p, ps'⟩
      · rfl
      · simp [ih ps']

theorem mergeL_lengths {α β : Type} (l : List Elem) (ps : List (List α)) (qs : List (List β))
    (h : ps.map List.length = qs.map List.length) :
    (mergeL l ps).map List.length = (mergeL l qs).map List.length := by
  induction l generalizing ps qs with
  | nil => exact h
  | cons e r ih =>
    unfold mergeL
    by_cases hs : (isSF e r).isSome
    · simp only [hs, if_true]
      -- `h` rules out lists of different lengths; with two pieces on each side the joined lengths are sums
      rcases ps with _ | ⟨p1, _ | ⟨p2, ps'⟩⟩ <;> rcases qs with _ | ⟨q1, _ | ⟨q2, qs'⟩⟩ <;> simp_all
    · simp only [hs]
      rcases ps with _ | ⟨p, ps'⟩ <;> rcases qs with _ | ⟨q, qs'⟩
      · rfl
      · cases h
      · cases h
      · simp only [List.map_cons, List.cons.injEq] at h
        simp only [Bool.false_eq_true, if_false, List.map_cons, h.1, ih ps' qs' h.2]

theorem readSecond_joined (w : Wall) (hb : Bounded w) (n : Nat) (hn : 1 ≤ n ∧ n ≤ 9) :
    readElem .second2 (formatElem w .second2 ++ formatElem w (.frac0 n)) = some (assign w .second2 ++ assign w (.frac0 n)) := by
  -- by inversion: that each piece alone is read (`h1`, `h2`) says that the range test of the seconds
  -- passes and that `parseNanos` succeeds on the fraction, which is all the joined piece needs
  have h1 := readElem_formatElem w hb .second2 nofun
  have h2 := readElem_formatElem w hb (.frac0 n) (fun m h => by cases h; exact hn)
  have hlen := second_piece_length w hb
  simp only [readElem] at h1 h2 ⊢
  rw [readSecond_two _ hlen] at h1
  rw [readSecond_more _ _ hlen (by simp [formatElem])]
  split at h1
  · cases h1
  · rename_i h60
    rw [if_neg h60]
    cases hp : parseNanos (formatElem w (.frac0 n)) with
    | none => rw [hp] at h2; cases h2
    | some ns =>
      rw [hp] at h2
      simp only [Option.map_some, Option.some.injEq] at h1 h2 ⊢
      rw [← h1, ← h2]; rfl

theorem readAll_merged (w : Wall) (hb : Bounded w) (l : List Elem) (hl : FracOK l) :
    readAll (dropFrac l) (mergeL l (l.map (formatElem w))) = some (l.flatMap (assign w)) := by
  induction l with
  | nil => rfl
  | cons e r ih =>
    have hr := hl.tail
    unfold dropFrac mergeL
    by_cases hs : (isSF e r).isSome
    · obtain ⟨n, hn⟩ := Option.isSome_iff_exists.mp hs
      obtain ⟨he, r', hr'⟩ := isSF_some hn
      subst he; subst hr'
      simp only [hs, if_true, List.map_cons, List.tail_cons, readAll, List.flatMap_cons]
      rw [readSecond_joined w hb n (hr.head n rfl), readAll_format w hb r' hr.tail]
      simp [List.append_assoc]
    · have hs' : (isSF e r).isSome = false := by simpa using hs
      simp only [hs', Bool.false_eq_true, if_false, List.map_cons, readAll, List.flatMap_cons]
      rw [readElem_formatElem w hb e hl.head, ih hr]
      rfl

/-- the layout that reads a rendering of `l`: `l` itself, or (`m`, "merged") its sibling `dropFrac l` -/
def reader (m : Bool) (l : List Elem) : List Elem := if m then dropFrac l else l

/-- the pieces of a rendering of `l` as `reader m l` takes them: seconds and fraction joined when `m` -/
def pieces {α : Type} (m : Bool) (l : List Elem) (ps : List (List α)) : List (List α) := if m then mergeL l ps else ps

theorem pieces_flatten {α : Type} (m : Bool) (l : List Elem) (ps : List (List α)) : (pieces m l ps).flatten = ps.flatten := by
  cases m
  · rfl
  · exact mergeL_flatten l ps

theorem pieces_lengths {α β : Type} (m : Bool) (l : List Elem) (ps : List (List α)) (qs : List (List β))
    (h : ps.map List.length = qs.map List.length) :
    (pieces m l ps).map List.length = (pieces m l qs).map List.length := by
  cases m
  · exact h
  · exact mergeL_lengths l ps qs h

theorem readAll_pieces (m : Bool) (w : Wall) (hb : Bounded w) (l : List Elem) (hl : FracOK l) :
    readAll (reader m l) (pieces m l (l.map (formatElem w))) = some (l.flatMap (assign w)) := by
  cases m
  · exact readAll_format w hb l hl
  · exact readAll_merged w hb l hl

/-- `splitW` with the reader cuts the shape of a rendering of `l` (zone form `v`) at the reader's
    pieces: a condition on the layout alone, decided by evaluation -/
def Cuts (m : Bool) (l : List Elem) (v : TZV) : Prop :=
  splitW (reader m l) (l.flatMap (elemShape v)) = some ((pieces m l (l.map (elemShape v))).map List.length)

theorem parseWith_reads (m : Bool) (l : List Elem) (hl : FracOK l) (w : Wall) (hb : Bounded w) (hx : Expressible l w)
    (hc : Cuts m l (tzv w)) : parseWith (reader m l) (format l w) = some w := by
  unfold parseWith
  -- stage 1 cuts the text into the pieces the elements wrote (`hc`, lengths from the shapes);
  -- stage 2 reads from them what was written (`readAll_pieces`), which is `w` again (`applyAll_assign`)
  rw [shape_format w hb l hl, hc]
  have hw : (pieces m l (l.map (elemShape (tzv w)))).map List.length = (pieces m l (l.map (formatElem w))).map List.length := by
    apply pieces_lengths
    rw [List.map_map, List.map_map]; apply List.map_congr_left
    intro e he; simp only [Function.comp]
    exact (length_formatElem w hb e (fun n h => (hl e he n h).2)).symm
  have hf : format l w = (pieces m l (l.map (formatElem w))).flatten := by
    rw [pieces_flatten]; simp [format, List.flatMap]
  simp only [hw]
  rw [hf, splitBy_flatten, readAll_pieces m w hb l hl]
  simp only [applyAll_assign l w hx]
  have := hb.day
  rw [if_neg (by simp; omega)]

/-- `∀ v, Cuts false l v`, written out -/
def ShapeOK (l : List Elem) : Prop :=
  ∀ v : TZV, splitW l (l.flatMap (elemShape v)) = some (l.map fun e => (elemShape v e).length)

instance (l : List Elem) : Decidable (ShapeOK l) :=
  decidable_of_iff (∀ v ∈ [TZV.z, .plus, .minus], splitW l (l.flatMap (elemShape v)) = some (l.map fun e => (elemShape v e).length))
    ⟨fun h v => h v (by cases v <;> simp), fun h v _ => h v⟩

theorem parseWith_format (l : List Elem) (hl : FracOK l) (hs : ShapeOK l) (w : Wall) (hb : Bounded w)
    (hx : Expressible l w) : parseWith l (format l w) = some w :=
  parseWith_reads false l hl w hb hx (by simp [Cuts, reader, pieces, hs (tzv w)])

theorem parseFirst_at (ls : List (List Elem)) (s : S) (j : Nat) (l : List Elem) (w : Wall) (hj : ls[j]? = some l)
    (hpre : ∀ lk ∈ ls.take j, parseWith lk s = none) (hl : parseWith l s = some w) :
    parseFirst ls s = some (j, w) := by
  induction ls generalizing j with
  | nil => simp at hj
  | cons a r ih =>
    cases j with
    | zero =>
      simp only [List.getElem?_cons_zero, Option.some.injEq] at hj
      simp [parseFirst, hj, hl]
    | succ j =>
      have := ih j (by simpa using hj) (fun lk h => hpre lk (by simp [h]))
      simp [parseFirst, hpre a (by simp), this]

def fracOKb (l : List Elem) : Bool := l.all fun e => match e with | .frac0 n => decide (1 ≤ n) && decide (n ≤ 9) | _ => true

theorem fracOK_of (l : List Elem) (h : fracOKb l = true) : FracOK l := by
  intro e he n hn
  simp only [fracOKb, List.all_eq_true] at h
  have := h e he
  subst hn
  simpa using this

def tzvs : List TZV := [.z, .plus, .minus]

theorem mem_tzvs (v : TZV) : v ∈ tzvs := by cases v <;> simp [tzvs]

def kindOf : Elem → List Kind
  | .lit _ => [] | .year4 => [.year] | .month2 => [.month] | .day2 => [.day] | .hour => [.hour]
  | .minute2 => [.minute] | .second2 => [.second] | .frac0 _ => [.nanos] | .tzColon => [.offset]

theorem expressible_of (l : List Elem) (w : Wall)
    (h1 : ∀ n, Elem.frac0 n ∈ l → w.nanos % pow10 (9 - n) = 0)
    (h2 : ∀ k, k ∉ l.flatMap kindOf → w.get k = Wall.zero.get k) : Expressible l w := by
  constructor
  · intro e he a ha
    cases e
    case frac0 n =>
      -- the one element that does not write its field as it is: the nanoseconds are cut to `n` digits
      rw [List.mem_singleton.mp ha]
      exact Int.ediv_mul_cancel (Int.dvd_of_emod_eq_zero (h1 n he))
    all_goals simp [assign] at ha <;> subst ha <;> rfl
  · intro k hk
    apply h2
    intro hmem
    simp only [List.mem_flatMap] at hmem
    obtain ⟨e, he, hke⟩ := hmem
    -- every element assigns the field `kindOf` names for it (a literal: none)
    cases e <;> simp [kindOf] at hke <;> subst hke <;> exact hk _ he (_, _) (by simp only [assign]; exact List.mem_singleton.mpr rfl) rfl

end FP.Lemmas.Text
