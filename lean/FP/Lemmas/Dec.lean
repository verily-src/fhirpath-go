/- FP.Lemmas.Dec (declared into `FP.Lemmas`) — FP.Model.Dec through one notion: `num d s`, the value of `d` scaled by
   10^s (an integer as soon as `0 ≤ s + d.exp`).  `rescalePair` brings two decimals to one exponent without changing
   either value; `add`, `sub` and `cmp` then work on the coefficients. -/
import FP.Model.Dec
namespace FP.Lemmas
open FP.Model

def num (d : Dec) (s : Int) : Int := d.coeff * Dec.pow10 (s + d.exp)

theorem pow10_add (x y : Int) (hx : 0 ≤ x) (hy : 0 ≤ y) : Dec.pow10 (x + y) = Dec.pow10 x * Dec.pow10 y := by
  unfold Dec.pow10
  rw [Int.toNat_add hx hy, Int.pow_add]

theorem pow10_pos (n : Int) : 0 < Dec.pow10 n := by
  unfold Dec.pow10; exact Int.pow_pos (by decide)

theorem rescale_exp (d : Dec) (e : Int) : (d.rescale e).exp = e := by
  unfold Dec.rescale; split
  · assumption
  · split <;> rfl

theorem rescale_down_num (d : Dec) (e s : Int) (he : e ≤ d.exp) (hs : 0 ≤ s + e) :
    num (d.rescale e) s = num d s := by
  unfold Dec.rescale num
  by_cases h : d.exp = e
  · subst h; simp
  · have h2 : ¬ e > d.exp := by omega
    simp only [h, h2, if_false]
    have : s + d.exp = (d.exp - e) + (s + e) := by omega
    rw [this, pow10_add _ _ (by omega) hs, Int.mul_assoc]

theorem rescalePair_spec (a b : Dec) (s : Int) (ha : 0 ≤ s + a.exp) (hb : 0 ≤ s + b.exp) :
    (Dec.rescalePair a b).2.exp = (Dec.rescalePair a b).1.exp ∧
    num (Dec.rescalePair a b).1 s = num a s ∧ num (Dec.rescalePair a b).2 s = num b s := by
  unfold Dec.rescalePair
  by_cases h1 : a.exp < b.exp
  · rw [if_pos h1]
    exact ⟨rescale_exp b a.exp, rfl, rescale_down_num b a.exp s (by omega) ha⟩
  · rw [if_neg h1]
    by_cases h2 : a.exp > b.exp
    · rw [if_pos h2]
      exact ⟨(rescale_exp a b.exp).symm, rescale_down_num a b.exp s (by omega) hb, rfl⟩
    · rw [if_neg h2]
      exact ⟨show b.exp = a.exp by omega, rfl, rfl⟩

theorem num_add (x y : Dec) (h : y.exp = x.exp) (s : Int) : num ⟨x.coeff + y.coeff, x.exp⟩ s = num x s + num y s := by
  unfold num; rw [h, Int.add_mul]
theorem num_sub (x y : Dec) (h : y.exp = x.exp) (s : Int) : num ⟨x.coeff - y.coeff, x.exp⟩ s = num x s - num y s := by
  unfold num; rw [h, Int.sub_mul]
theorem num_lt (x y : Dec) (h : y.exp = x.exp) (s : Int) : num x s < num y s ↔ x.coeff < y.coeff := by
  unfold num; rw [h]
  exact ⟨fun hl => Int.lt_of_mul_lt_mul_right hl (Int.le_of_lt (pow10_pos _)), fun hl => Int.mul_lt_mul_of_pos_right hl (pow10_pos _)⟩
theorem num_eq (x y : Dec) (h : y.exp = x.exp) (s : Int) : num x s = num y s ↔ x.coeff = y.coeff := by
  unfold num; rw [h]
  exact ⟨Int.eq_of_mul_eq_mul_right (Int.ne_of_gt (pow10_pos _)), fun he => by rw [he]⟩

theorem cmp_spec (a b : Dec) (s : Int) (ha : 0 ≤ s + a.exp) (hb : 0 ≤ s + b.exp) :
    Dec.cmp a b = (if num a s < num b s then -1 else if num a s = num b s then 0 else 1) := by
  obtain ⟨he, h1, h2⟩ := rescalePair_spec a b s ha hb
  simp only [← h1, ← h2, num_lt _ _ he, num_eq _ _ he, Dec.cmp]

theorem lt_eq_decide (a b : Dec) (s : Int) (ha : 0 ≤ s + a.exp) (hb : 0 ≤ s + b.exp) :
    Dec.lt a b = decide (num a s < num b s) := by
  rw [Dec.lt, cmp_spec a b s ha hb]
  split
  · simp [*]
  · split <;> simp [*]

theorem eq_eq_decide (a b : Dec) (s : Int) (ha : 0 ≤ s + a.exp) (hb : 0 ≤ s + b.exp) :
    Dec.eq a b = decide (num a s = num b s) := by
  rw [Dec.eq, cmp_spec a b s ha hb]
  split
  · simp; omega
  · split <;> simp [*]

theorem num_neg_exp (d : Dec) : num d (-d.exp) = d.coeff := by
  simp [num, Int.add_left_neg, Dec.pow10]

theorem eq_scaled (c e : Int) (m : Nat) :
    Dec.eq ⟨c, e⟩ ⟨c * (10 : Int) ^ m, e - m⟩ = true ∧ Dec.eq ⟨c * (10 : Int) ^ m, e - m⟩ ⟨c, e⟩ = true := by
  have hn : num ⟨c, e⟩ (m - e) = num ⟨c * (10 : Int) ^ m, e - m⟩ (m - e) := by
    have h1 : (m : Int) - e + e = m := by omega
    have h2 : (m : Int) - e + (e - m) = 0 := by omega
    simp [num, h1, h2, Dec.pow10]
  rw [eq_eq_decide _ _ (m - e) (by simp) (by simp; omega), eq_eq_decide _ _ (m - e) (by simp; omega) (by simp)]
  exact ⟨decide_eq_true hn, decide_eq_true hn.symm⟩

theorem decDiv_eq_none (a b : Dec) : Dec.div a b = none ↔ b.coeff = 0 := by simp [Dec.div, Dec.divRound, Dec.quoRem]
theorem decMod_eq_none (a b : Dec) : Dec.mod a b = none ↔ b.coeff = 0 := by simp [Dec.mod, Dec.quoRem]

theorem quoRem_some (a b : Dec) (h : b.coeff ≠ 0) : (Dec.quoRem a b 0).isSome := by
  simp [Dec.quoRem, h]

end FP.Lemmas
