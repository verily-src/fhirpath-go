/-
  FP.Lemmas.Eval — `eval` as the theorems about whole expressions use it; no property file unfolds `eval`.
  An operator node has its equation here (`rfl`): a proof rewrites with it, puts in what the operands evaluate to,
  takes the `bind` steps (`rw [eval_bool, hl, hr, Res.ok_bind, Res.ok_bind]`) and is left with the operator on
  collections.  Not `simp` lemmas: `simp` goes into the continuation of a `bind` before the operand is known and
  unfolds the operator there on variables, which is slow.
  A call is a row of `apply0 … apply3`.  Looking a literal name up by `simp` costs a string comparison for every
  row above it; `rfl` on the row is far cheaper, and the rows that several theorems use are stated here.
-/
import FP.Model.Eval
import FP.Lemmas.Res
import FP.Lemmas.Types
namespace FP.Model.Eval

@[simp] theorem mapRes_ok {α β : Type} (f : α → β) (a : α) : mapRes f (.ok a) = .ok (f a) := rfl
@[simp] theorem mapRes_err {α β : Type} (f : α → β) (e : String) : mapRes f (.err e : Res α) = .err e := rfl
@[simp] theorem mapRes_panic {α β : Type} (f : α → β) : mapRes f (.panic : Res α) = .panic := rfl

variable {env : Env} {input : List Val}

theorem eval_seq (a b : E) : eval env (.seq a b) input = (eval env a input).bind fun mid => eval env b mid := rfl
theorem eval_index (i : E) : eval env (.index i) input = (eval env i input).bind fun iv => indexColl iv input := rfl
theorem eval_neg (e : E) : eval env (.neg e) input = (eval env e input).bind negColl := rfl
theorem eval_arith (op : ArithOp) (l r : E) : eval env (.arith op l r) input =
    (eval env l input).bind fun lv => (eval env r input).bind fun rv => arithEv op lv rv := rfl
theorem eval_bool (op : BoolOp) (l r : E) : eval env (.bool op l r) input =
    (eval env l input).bind fun lv => (eval env r input).bind fun rv =>
      mapRes bools (boolExpr op (lv.map toB) (rv.map toB)) := rfl
theorem eval_eq (n : Bool) (l r : E) : eval env (.eq n l r) input =
    (eval env l input).bind fun lv => (eval env r input).bind fun rv =>
      .ok (bools (eqExpr n (lv.map .prim) (rv.map .prim))) := rfl
theorem eval_cmp (op : CmpOp) (l r : E) : eval env (.cmp op l r) input =
    (eval env l input).bind fun lv => (eval env r input).bind fun rv =>
      mapRes bools (cmpExpr op (lv.map some) (rv.map some)) := rfl
theorem eval_isT (e : E) (t : FP.Gen.TypeParent.TypeSpecifier) : eval env (.isT e t) input =
    (eval env e input).bind fun r => typeOpColl (fun x => [.bool (itemIs x t)]) r := rfl
theorem eval_asT (e : E) (t : FP.Gen.TypeParent.TypeSpecifier) : eval env (.asT e t) input =
    (eval env e input).bind fun r => typeOpColl (fun x => if itemIs x t then [x] else []) r := rfl
theorem eval_ext (n : String) : eval env (.ext n) input =
    match env.find? (fun p => p.1 == n) with | some p => .ok p.2 | none => .err "constant-not-found" := rfl

theorem eval_unimplemented (args : E) : eval env (.fn "unimplemented!" args) input = .err "not-implemented" := by
  simp [eval]

theorem eval_clock {name : String} (hc : isClockFn name = true) : eval env (.fn name .argNil) input = clockFn name env := by
  have h : name ≠ "unimplemented!" := by rintro rfl; simp [isClockFn] at hc
  simp [eval, hc]

section Fn
variable {name : String} (h : name ≠ "unimplemented!")
include h

theorem eval_fn0 (hc : isClockFn name = false) : eval env (.fn name .argNil) input = apply0 name input := by
  simp [eval, hc]
theorem eval_fn2 (a b : E) :
    eval env (.fn name (.argCons a (.argCons b .argNil))) input = apply2 name (eval env a) (eval env b) input := by
  simp [eval]
end Fn

theorem eval_where (p : E) : eval env (.fn "where" (.argCons p .argNil)) input = whereFn (crit (eval env p)) input := rfl
theorem eval_exists1 (p : E) : eval env (.fn "exists" (.argCons p .argNil)) input =
    mapRes (fun b => [.bool b]) (existsFn (crit (eval env p)) input) := rfl
theorem eval_all (p : E) : eval env (.fn "all" (.argCons p .argNil)) input =
    mapRes (fun b => [.bool b]) (allFn (crit (eval env p)) input) := rfl
theorem eval_take (a : E) : eval env (.fn "take" (.argCons a .argNil)) input =
    if input.isEmpty then .ok [] else (eval env a input).bind fun av => (toInt32 av).bind fun n => .ok (takeFn n input) := rfl
theorem eval_skip (a : E) : eval env (.fn "skip" (.argCons a .argNil)) input =
    if input.isEmpty then .ok [] else (eval env a input).bind fun av => (toInt32 av).bind fun n => .ok (skipFn n input) := rfl

theorem eval_upper : eval env (.fn "upper" .argNil) input = caseOn asciiUpper input := rfl
theorem eval_lower : eval env (.fn "lower" .argNil) input = caseOn asciiLower input := rfl
theorem eval_round0 : eval env (.fn "round" .argNil) input =
    match input with | [] => .ok [] | [v] => roundVal 0 v | _ => .err "not-singleton" := rfl
theorem eval_round1 (a : E) : eval env (.fn "round" (.argCons a .argNil)) input =
    match input with
    | [] => .ok []
    | [v] => (eval env a input).bind fun av => (toInt32 av).bind fun p => if p < 0 then .err "negative-precision" else roundVal p v
    | _ => .err "not-singleton" := rfl

theorem eval_conversions (env : Env) (input : List Val) :
    ∀ p ∈ [(Conv.Ty.string, "toString", "convertsToString"), (.integer, "toInteger", "convertsToInteger"),
        (.decimal, "toDecimal", "convertsToDecimal"), (.boolean, "toBoolean", "convertsToBoolean"),
        (.date, "toDate", "convertsToDate"), (.dateTime, "toDateTime", "convertsToDateTime"),
        (.time, "toTime", "convertsToTime"), (.quantity, "toQuantity", "convertsToQuantity")],
      eval env (.fn p.2.1 .argNil) input = convOn p.1 input ∧
      eval env (.fn p.2.2 .argNil) input = convertsOn p.1 input := by
  intro p hp
  simp only [List.mem_cons, List.not_mem_nil, or_false] at hp
  rcases hp with rfl | rfl | rfl | rfl | rfl | rfl | rfl | rfl <;> exact ⟨rfl, rfl⟩

/-- a System value is of its own type and of `System.Any`, and of no other: by argument, so also for a value whose
    type name is not one of the eight -/
theorem itemIs_eq (v : Val) (t : FP.Gen.TypeParent.TypeSpecifier) :
    itemIs v t = (t.ns == "System" && (sysName v == t.typeName || t.typeName == "Any")) := by
  obtain ⟨ns, n⟩ := t
  by_cases h : ns = "System"
  · subst h; exact (Lemmas.Types.system_is _ n).trans (by simp)
  · have hne : (ns == "System") = false := beq_eq_false_iff_ne.mpr h
    rw [hne, Bool.false_and]
    unfold itemIs Model.is isFuel
    simp [typeOf, FP.Gen.TypeParent.System, Ne.symm h]

end FP.Model.Eval
