/- FP.Lemmas.Types — `TypeSpecifier.Is` against the reference hierarchy `FP.Ref.parentOf`.  Whatever the name, a parent
   is one of eight names (`parentOf_range`, by `all_ite`, a fact about `ite` that is used there only), so what C12 says
   about the parents of all type names is checked on those eight.  Then unqualified name resolution
   (`resolve_of_valid`) and `Is` between System types (`system_is`). -/
import FP.Model.Types
import FP.Ref.Types
namespace FP.Lemmas.Types
open FP.Model FP.Ref FP.Gen.TypeParent

theorem isFuel_succ (k : Nat) (ns a b : String) :
    isFuel (k + 1) ⟨ns, a⟩ ⟨ns, b⟩ = (a == b || (!(⟨ns, a⟩ == parent ⟨ns, a⟩) && isFuel k (parent ⟨ns, a⟩) ⟨ns, b⟩)) := by
  rw [isFuel]
  cases hp : (⟨ns, a⟩ : TypeSpecifier) == parent ⟨ns, a⟩ <;> by_cases hab : a = b <;> simp [hab]

def parentNames : List String :=
  ["Element", "Resource", "string", "integer", "uri", "Quantity", "DomainResource", "BackboneElement"]

theorem all_ite {α} (q : α → Bool) (c : Prop) [Decidable c] (a b : Option α)
    (ha : a.all q = true) (hb : b.all q = true) : (if c then a else b).all q = true := by
  split <;> assumption

theorem parentOf_range (n : String) : (parentOf n).all parentNames.contains = true := by
  unfold parentOf
  -- `all_ite` down the chain of string tests: `split` on it costs twenty times as much
  cases Gen.Schema.resourceTypes.find? _ <;> cases Gen.Schema.elementTypes.find? _ <;> (repeat' apply all_ite) <;> rfl

theorem parentOf_mem {n p : String} (h : parentOf n = some p) : p ∈ parentNames := by
  simpa [h] using parentOf_range n

theorem parentNames_closed :
    parentNames.all (fun p => fhirTypeNames.contains p && parentOf p != some p) = true := by decide +kernel

theorem hierarchy_closed {n p : String} (h : parentOf n = some p) : p ∈ fhirTypeNames ∧ p ≠ n := by
  have hp := List.all_eq_true.mp parentNames_closed p (parentOf_mem h)
  simp only [Bool.and_eq_true, List.contains_iff_mem, bne_iff_ne, ne_eq] at hp
  exact ⟨hp.1, fun e => hp.2 (e ▸ h)⟩

theorem isFuel_eq_derivesFuel
    (agree : ∀ a ∈ fhirTypeNames, parent ⟨"FHIR", a⟩ = ⟨"FHIR", (parentOf a).getD a⟩) (k : Nat) :
    ∀ a, a ∈ fhirTypeNames → ∀ b, isFuel k ⟨"FHIR", a⟩ ⟨"FHIR", b⟩ = derivesFuel k a b := by
  induction k with
  | zero => intro a _ b; rfl
  | succ k ih =>
    intro a ha b
    rw [isFuel_succ, derivesFuel, agree a ha]
    cases hpo : parentOf a with
    | none => simp
    | some p =>
      have hc := hierarchy_closed hpo
      have hne : ((⟨"FHIR", a⟩ : TypeSpecifier) == ⟨"FHIR", p⟩) = false := by
        simp; exact fun h => hc.2 h.symm
      simp only [Option.getD_some, hne, Bool.not_false, Bool.true_and, ih p hc.1 b]

theorem resolve_of_valid {n : String}
    (h : (isValidFHIRPathElement toLowerCamel isValidElementType n || isValidResourceType n || isBaseType n) = true) :
    resolve none n = .ok ⟨"FHIR", n⟩ := by
  simp only [resolve, newTypeSpecifierG, h, if_true, Model.ofExcept]

theorem system_is (a b : String) : is ⟨"System", a⟩ ⟨"System", b⟩ = (a == b || b == "Any") := by
  have hpar : ∀ n, parent ⟨"System", n⟩ = ⟨"System", "Any"⟩ := fun n => by simp [parent, parentG]
  -- two steps: `a` itself, then its parent `Any`, which is its own parent
  rw [is, isFuel_succ, hpar, isFuel_succ, hpar]
  simp only [beq_self_eq_true, Bool.not_true, Bool.false_and, Bool.or_false]
  by_cases hab : a = b
  · simp [hab]
  · by_cases hb : b = "Any"
    · subst hb; simp [hab]
    · rw [beq_eq_false_iff_ne.mpr hb, beq_eq_false_iff_ne.mpr (Ne.symm hb), Bool.and_false]

end FP.Lemmas.Types
