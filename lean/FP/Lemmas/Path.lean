/-
  FP.Lemmas.Path — a navigation step over a collection (`stepAll`, `fieldStepAll`) is the traversal `selectFn` of
  FP.Lemmas.Coll; a path is the composition of its steps.  Also, for FP.Model.Navigate: the name gate `gateOk` read
  off the bytes of the name (`gateB`), which is what C02's sweep over the schema evaluates.
-/
import FP.Model.Path
import FP.Lemmas.Coll
import FP.Lemmas.Bytes
namespace FP.Lemmas.Path
open FP.Model

theorem stepAll_eq_selectFn {α : Type} (f : α → Res (List α)) (c : List α) : stepAll f c = selectFn f c := by
  induction c with
  | nil => rfl
  | cons x xs ih => rw [stepAll, selectFn, ih]; cases f x <;> rfl

theorem fieldStepAll_eq_selectFn (name snake : String) (ms : List (Nat × MsgDesc)) :
    fieldStepAll name snake ms = selectFn (fun p => fieldStep name snake p.1 p.2) ms := by
  induction ms with
  | nil => rfl
  | cons p ps ih =>
    obtain ⟨id, m⟩ := p; rw [fieldStepAll, selectFn, ih]
    cases fieldStep name snake id m <;> cases selectFn (fun p => fieldStep name snake p.1 p.2) ps <;> rfl

theorem evalPath_append {α : Type} (s t : List (α → Res (List α))) (c : List α) :
    evalPath (s ++ t) c = (evalPath s c).bind (evalPath t) := by
  induction s generalizing c with
  | nil => rfl
  | cons f fs ih => rw [List.cons_append, evalPath, evalPath]; cases stepAll f c <;> first | exact ih _ | rfl

theorem step_into_value (t : Tree) (name snake : String) (o : Out) (h : (∃ i, o = .prim i) ∨ o = .synthValue) :
    treeStep t name snake o = .err "not-an-element" := by
  rcases h with ⟨i, h⟩ | h <;> subst h <;> rfl

/-- `gateOk` on the bytes of the name (FP.Lemmas.Bytes), for the sweep over the schema -/
def gateB (name : String) (dl : Bool) : Bool :=
  !((Bytes.bytes name).contains 95) && (match Bytes.bytes name with | b :: _ => !(65 ≤ b && b ≤ 90) | [] => true) &&
  !(dl && hiddenDateField name)

theorem gateOk_eq_gateB : gateOk = gateB := by
  funext name dl
  unfold gateOk gateB
  rw [Bytes.bytes_eq]
  congr 2
  · have us (x : Char) : x.toNat = 95 ↔ x = '_' := Char.toNat_inj (d := '_')
    rw [Bool.eq_iff_iff]
    simp [Bytes.mem_encode_ascii, us]
  · cases name.toList with
    | nil => rfl
    | cons c cs =>
      obtain ⟨b, t, hb, hu⟩ := Bytes.head_encode_isUpper c
      simp [hb, ← hu]

end FP.Lemmas.Path
