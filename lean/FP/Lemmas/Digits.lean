/-
  FP.Lemmas.Digits — strings of decimal digits: their value, the digits of a number, an optional sign
  in front, what Go's three integer readers make of them, and `indexWhere` on a text with and
  without a hit; FP.Lemmas.Text and FP.Lemmas.DecText rest on it.  The declarations go into the
  namespace FP.Lemmas.Text, which all their users open.
-/
import FP.Model.Text
import FP.Lemmas.List
namespace FP.Lemmas.Text
open FP.Model.Text

theorem digitVal_digitChar : ∀ d, d < 10 → digitVal (digitChar d) = d := by decide
theorem isDigit_digitChar : ∀ d, d < 10 → isDigit (digitChar d) = true := by decide
theorem foldl_digits (s : S) (a : Nat) :
    s.foldl (fun a c => a * 10 + digitVal c) a = a * 10 ^ s.length + digitsVal s := by
  induction s generalizing a with
  | nil => simp [digitsVal]
  | cons c r ih =>
    simp only [List.foldl_cons, digitsVal, List.length_cons]
    rw [ih, ih (0 * 10 + digitVal c)]
    simp only [digitsVal, Nat.pow_succ]
    rw [Nat.add_mul, Nat.zero_mul, Nat.zero_add, Nat.mul_assoc, Nat.mul_comm 10]
    omega

theorem digitsVal_append (a b : S) : digitsVal (a ++ b) = digitsVal a * 10 ^ b.length + digitsVal b := by
  simp only [digitsVal, List.foldl_append]
  rw [foldl_digits]; rfl

theorem digitsVal_natDigits (n : Nat) : digitsVal (natDigits n) = n := by
  induction n using Nat.strongRecOn with
  | _ n ih =>
    rw [natDigits]
    split
    · rename_i h; simp [digitsVal, digitVal_digitChar n h]
    · rename_i h
      rw [digitsVal_append, ih (n / 10) (by omega)]
      simp [digitsVal, digitVal_digitChar _ (Nat.mod_lt n (by omega : 0 < 10))]
      omega
theorem allDigits_natDigits (n : Nat) : (natDigits n).all isDigit = true := by
  induction n using Nat.strongRecOn with
  | _ n ih =>
    rw [natDigits]
    split
    · rename_i h; simp [isDigit_digitChar n h]
    · rename_i h
      simp only [List.all_append, ih (n / 10) (by omega), List.all_cons, List.all_nil, Bool.and_true, Bool.true_and]
      exact isDigit_digitChar _ (Nat.mod_lt _ (by omega))
theorem natDigits_ne_nil (n : Nat) : natDigits n ≠ [] := by
  rw [natDigits]; split <;> simp

theorem natDigits_length_le (k : Nat) : ∀ n, n < 10 ^ k → 1 ≤ k → (natDigits n).length ≤ k := by
  induction k with
  | zero => intro n _ h; omega
  | succ k ih =>
    intro n hn _
    rw [natDigits]
    split
    · simp
    · rename_i h
      have hk : 1 ≤ k := by
        rcases k with _ | k
        · simp at hn; omega
        · omega
      have : n / 10 < 10 ^ k := by
        rw [Nat.pow_succ] at hn; omega
      have := ih (n / 10) this hk
      simp; omega

theorem digitsVal_replicate_zero (k : Nat) : digitsVal (List.replicate k '0') = 0 := by
  induction k with
  | zero => rfl
  | succ k ih => rw [List.replicate_succ', digitsVal_append, ih]; rfl

theorem digitsVal_zeros (k : Nat) (d : S) : digitsVal (List.replicate k '0' ++ d) = digitsVal d := by
  rw [digitsVal_append, digitsVal_replicate_zero, Nat.zero_mul, Nat.zero_add]

theorem padNat_length (w n : Nat) (h : n < 10 ^ w) (hw : 1 ≤ w) : (padNat w n).length = w := by
  have := natDigits_length_le w n h hw
  simp [padNat]; omega
theorem padNat_val (w n : Nat) : digitsVal (padNat w n) = n := by
  simp only [padNat]; rw [digitsVal_zeros, digitsVal_natDigits]
theorem padNat_val_int (w : Nat) {x : Int} (h : 0 ≤ x) : (digitsVal (padNat w x.toNat) : Int) = x := by
  rw [padNat_val, Int.toNat_of_nonneg h]
theorem allDigits_replicate (m : Nat) : (List.replicate m '0').all isDigit = true := by
  rw [List.all_eq_true]; intro x hx; rw [List.mem_replicate] at hx; rw [hx.2]; decide
theorem padNat_allDigits (w n : Nat) : (padNat w n).all isDigit = true := by
  simp only [padNat, List.all_append, allDigits_natDigits, allDigits_replicate, Bool.and_true]

theorem padNat2 (n : Nat) (h : n < 100) : padNat 2 n = [digitChar (n / 10), digitChar (n % 10)] := by
  unfold padNat
  rw [natDigits]
  split
  · rename_i h1
    have : n / 10 = 0 := by omega
    have h2 : n % 10 = n := by omega
    simp [this, h2]; decide
  · rename_i h1
    rw [natDigits]
    have : n / 10 < 10 := by omega
    simp [this]

theorem two_digits (n : Nat) (h : n < 100) :
    ∃ a b, padNat 2 n = [a, b] ∧ isDigit a = true ∧ isDigit b = true ∧ digitsVal [a, b] = n := by
  refine ⟨_, _, padNat2 n h, isDigit_digitChar _ (by omega), isDigit_digitChar _ (by omega), ?_⟩
  rw [← padNat2 n h, padNat_val]

theorem digitsVal_lt (s : S) (h : s.all isDigit = true) : digitsVal s < 10 ^ s.length := by
  induction s with
  | nil => simp [digitsVal]
  | cons c r ih =>
    simp only [List.all_cons, Bool.and_eq_true] at h
    have h1 := ih h.2
    rw [show c :: r = [c] ++ r from rfl, digitsVal_append, show digitsVal [c] = digitVal c by simp [digitsVal]]
    have hc : digitVal c < 10 := by
      have := h.1; simp only [isDigit, Bool.and_eq_true, decide_eq_true_eq] at this
      unfold digitVal; omega
    simp only [List.singleton_append, List.length_cons, Nat.pow_succ]
    have : digitVal c * 10 ^ r.length ≤ 9 * 10 ^ r.length := Nat.mul_le_mul_right _ (by omega)
    omega

theorem digitsVal_take (s : S) (h : s.all isDigit = true) (k : Nat) :
    digitsVal (s.take k) = digitsVal s / 10 ^ (s.length - k) := by
  have hs : s = s.take k ++ s.drop k := (List.take_append_drop k s).symm
  have hd : (s.drop k).all isDigit = true := Lists.all_of_subset h fun _ => List.mem_of_mem_drop
  have hlt := digitsVal_lt _ hd
  have hl : (s.drop k).length = s.length - k := by simp
  have := digitsVal_append (s.take k) (s.drop k)
  rw [← hs, hl] at this
  rw [hl] at hlt
  rw [this, Nat.add_comm, Nat.add_mul_div_right _ _ (Nat.pow_pos (by omega)), Nat.div_eq_of_lt hlt]; simp

def signS (neg : Bool) : S := if neg then ['-'] else []
def signed (neg : Bool) (n : Nat) : Int := if neg then -(n : Int) else (n : Int)

/-- Go's readers and the two regular expressions begin with a match on `'+' :: r`, `'-' :: r`: given
    the first two of these facts `simp` reduces it on a text that starts with a digit -/
theorem digit_not_sign (c : Char) (h : isDigit c = true) : c ≠ '+' ∧ c ≠ '-' ∧ c ≠ '.' ∧ c ≠ 'e' ∧ c ≠ 'E' := by
  refine ⟨?_, ?_, ?_, ?_, ?_⟩ <;> (intro hc; rw [hc] at h; exact absurd h (by decide))

theorem all_head {p : Char → Bool} {c : Char} {r : S} (h : (c :: r).all p = true) : p c = true := by
  simp only [List.all_cons, Bool.and_eq_true] at h; exact h.1

theorem parseBig_signed (neg : Bool) (b : S) (hne : b ≠ []) (hd : b.all isDigit = true) :
    parseBig (signS neg ++ b) = some (signed neg (digitsVal b)) := by
  cases b with
  | nil => exact absurd rfl hne
  | cons c r =>
    obtain ⟨hp, hm, -⟩ := digit_not_sign c (all_head hd)
    cases neg
    · simp [signS, signed, parseBig, hp, hm, hd]
    · simp [signS, signed, parseBig, hd]

theorem renderInt_signed (i : Int) : renderInt i = signS (decide (i < 0)) ++ natDigits i.natAbs := by
  unfold renderInt signS; by_cases h : i < 0 <;> simp [h]

theorem signed_natAbs (i : Int) : signed (decide (i < 0)) i.natAbs = i := by
  unfold signed; by_cases h : i < 0 <;> simp [h] <;> omega

theorem parseIntGo_eq (s : S) (bits : Nat) :
    parseIntGo s bits = (parseBig s).bind fun i =>
      if -(2 ^ (bits - 1) : Int) ≤ i ∧ i < (2 ^ (bits - 1) : Int) then some i else none := by
  unfold parseIntGo parseBig
  split <;> (dsimp only; split <;> rfl)

theorem atoiTime_eq (s : S) (h : (parseBig s).isSome) : atoiTime s = parseBig s := by
  unfold parseBig at h ⊢; unfold atoiTime
  split <;> dsimp only at h ⊢ <;> split at h <;> simp_all

theorem atoiTime_digits (s : S) (hne : s ≠ []) (h : s.all isDigit = true) : atoiTime s = some (digitsVal s : Int) := by
  have := parseBig_signed false s hne h
  simp only [signS, signed, Bool.false_eq_true, if_false, List.nil_append] at this
  rw [atoiTime_eq _ (by simp [this]), this]

theorem parseIntGo_renderInt (i : Int) (h : -2147483648 ≤ i ∧ i < 2147483648) :
    parseIntGo (renderInt i) 32 = some i := by
  rw [parseIntGo_eq, renderInt_signed, parseBig_signed _ _ (natDigits_ne_nil _) (allDigits_natDigits _),
    digitsVal_natDigits, signed_natAbs]
  have h2 : ((2:Int) ^ (32 - 1)) = 2147483648 := by rfl
  simp only [Option.bind_some, h2]
  rw [if_pos (by omega)]

theorem indexWhere_none (p : Char → Bool) (s : S) (h : ∀ c ∈ s, p c = false) : indexWhere p s = none := by
  induction s with
  | nil => rfl
  | cons c r ih =>
    have hc := h c (List.mem_cons_self ..)
    have := ih (fun x hx => h x (List.mem_cons_of_mem _ hx))
    simp [indexWhere, hc, this]

theorem indexWhere_hit (p : Char → Bool) (a b : S) (c : Char) (ha : ∀ x ∈ a, p x = false) (hc : p c = true) :
    indexWhere p (a ++ c :: b) = some a.length := by
  induction a with
  | nil => simp [indexWhere, hc]
  | cons x r ih =>
    have hx := ha x (List.mem_cons_self ..)
    have := ih (fun y hy => ha y (List.mem_cons_of_mem _ hy))
    simp [indexWhere, hx, this]

end FP.Lemmas.Text
