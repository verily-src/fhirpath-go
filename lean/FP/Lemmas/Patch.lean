/-
  FP.Lemmas.Patch — the list edits of FP.Model.Patch are core `List` operations (`eraseIdx`, `insertIdx`, `set`);
  and the one fact about `run`, through which every operation returns.
-/
import FP.Model.Patch
namespace FP.Lemmas.Patch
open FP.Model.Patch

theorem eraseAt_eq (l : List Slot) (k : Nat) : eraseAt l k = l.eraseIdx k :=
  (List.eraseIdx_eq_take_drop_succ l k).symm

theorem insertAt_eq (l : List Slot) (k : Nat) (x : Slot) (hk : k ≤ l.length) : insertAt l k x = l.insertIdx k x := by
  induction l generalizing k with
  | nil => cases k <;> simp_all [insertAt]
  | cons a as ih =>
    cases k with
    | zero => simp [insertAt]
    | succ k => simpa [insertAt] using ih k (by simpa using hk)

theorem replaceAt_eq (l : List Slot) (k : Nat) (x : Slot) (hk : k < l.length) : replaceAt l k x = l.set k x := by
  rw [List.set_eq_take_append_cons_drop, if_pos hk]; rfl

theorem run_error_unchanged (s : Store) (r : Except Outcome Store) (h : (run s r).2 ≠ .ok) : (run s r).1 = s := by
  cases r with
  | ok s' => simp [run] at h
  | error e => rfl

end FP.Lemmas.Patch
