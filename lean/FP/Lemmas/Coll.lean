/-
  FP.Lemmas.Coll — FP.Model.Coll in the terms proofs use: subsetting is `List.take` / `List.drop` / `l[i]?` (the guards
  of the model only spell out the borders); one invariant for the loop of `Distinct` / `Intersect`; one step equation
  each, written with `Res.bind`, for `Where` / `All` / `Select`.
-/
import FP.Model.Coll
namespace FP.Lemmas.Coll
open FP.Model

variable {α : Type}

theorem takeFn_eq (n : Int) (c : List α) : takeFn n c = c.take n.toNat := by
  unfold takeFn
  split
  · rw [List.isEmpty_iff.mp ‹c.isEmpty = true›, List.take_nil]
  · split
    · rw [Int.toNat_of_nonpos ‹_›, List.take_zero]
    · split
      · rw [List.take_of_length_le (by omega)]
      · rfl

theorem skipFn_eq (n : Int) (c : List α) : skipFn n c = c.drop n.toNat := by
  unfold skipFn
  split
  · rw [List.isEmpty_iff.mp ‹c.isEmpty = true›, List.drop_nil]
  · split
    · rw [Int.toNat_of_nonpos ‹_›, List.drop_zero]
    · split
      · rw [List.drop_of_length_le (by omega)]
      · rfl

theorem firstFn_eq (c : List α) : firstFn c = c.take 1 := by cases c <;> rfl
theorem tailFn_eq (c : List α) : tailFn c = c.drop 1 := by cases c <;> rfl

theorem lastFn_eq (c : List α) : lastFn c = c.drop (c.length - 1) := by
  unfold lastFn
  rcases List.eq_nil_or_concat c with rfl | ⟨pre, z, rfl⟩
  · rfl
  · simp

theorem indexFn_eq (i : Int) (c : List α) : indexFn i c = if i < 0 then [] else (c[i.toNat]?).toList := by
  unfold indexFn
  by_cases h0 : i < 0
  · simp [h0]
  · by_cases h1 : i ≥ c.length
    · simp [h0, h1, List.getElem?_eq_none (show c.length ≤ i.toNat by omega)]
    · simp [h0, h1]

theorem first_eq_index0 (c : List α) : firstFn c = indexFn 0 c := by
  cases c <;> simp [firstFn, indexFn]

theorem take_skip_partition (n : Int) (c : List α) : takeFn n c ++ skipFn n c = c := by
  rw [takeFn_eq, skipFn_eq, List.take_append_drop]

theorem containsFn_of_mem (eq : α → α → Bool) (hr : ∀ x, eq x x = true) {l : List α} {x : α} (h : x ∈ l) :
    containsFn eq l x = true :=
  List.any_eq_true.mpr ⟨x, h, hr x⟩

theorem containsFn_mono (eq : α → α → Bool) {l l' : List α} (h : ∀ y ∈ l, y ∈ l') {x : α}
    (hx : containsFn eq l x = true) : containsFn eq l' x = true := by
  obtain ⟨y, hy, e⟩ := List.any_eq_true.mp hx
  exact List.any_eq_true.mpr ⟨y, h y hy, e⟩

theorem distinctAux_spec (eq : α → α → Bool) (acc c : List α) :
    ∃ k, distinctAux eq acc c = acc.reverse ++ k ∧ k.Sublist c ∧
      (∀ x ∈ c, x ∈ k ∨ containsFn eq (acc.reverse ++ k) x = true) ∧
      (acc.reverse.Pairwise (fun a b => eq a b = false) → (acc.reverse ++ k).Pairwise (fun a b => eq a b = false)) := by
  induction c generalizing acc with
  | nil => exact ⟨[], by simp [distinctAux], .slnil, by simp, by simp⟩
  | cons y ys ih =>
    unfold distinctAux
    split
    · rename_i hy
      obtain ⟨k, hk, hsub, hcov, hpw⟩ := ih acc
      refine ⟨k, hk, hsub.cons y, ?_, hpw⟩
      intro x hx
      rcases List.mem_cons.mp hx with rfl | hx
      · exact .inr (containsFn_mono eq (fun z hz => by simp [hz]) hy)
      · exact hcov x hx
    · rename_i hy
      obtain ⟨k, hk, hsub, hcov, hpw⟩ := ih (y :: acc)
      rw [List.reverse_cons, List.append_assoc] at hk hcov hpw
      refine ⟨y :: k, hk, hsub.cons_cons y, ?_, fun hacc => hpw ?_⟩
      · intro x hx
        rcases List.mem_cons.mp hx with rfl | hx
        · exact .inl List.mem_cons_self
        · exact (hcov x hx).imp_left (List.mem_cons_of_mem _)
      · -- `y` joins the kept items because none of them equals it: that is the test `hy` it just failed
        refine List.pairwise_append.mpr ⟨hacc, List.pairwise_singleton .., fun a ha b hb => ?_⟩
        rw [List.mem_singleton.mp hb]
        exact Bool.eq_false_iff.mpr fun e => hy (List.any_eq_true.mpr ⟨a, List.mem_reverse.mp ha, e⟩)

theorem intersectAux_eq (eq : α → α → Bool) (d acc c : List α) :
    intersectAux eq d acc c = distinctAux eq acc (c.filter (containsFn eq d)) := by
  induction c generalizing acc with
  | nil => rfl
  | cons y ys ih =>
    unfold intersectAux
    cases hd : containsFn eq d y <;> cases ha : containsFn eq acc y <;> simp [hd, ha, ih, distinctAux]

-- `Where` reads a criterion with `toSingletonBoolean`, `All` with `toBool`; both steps are stated over `(crit x).bind toBool`

theorem whereFn_cons (crit : α → Res (List BItem)) (x : α) (xs : List α) :
    whereFn crit (x :: xs) = ((crit x).bind Model.toBool).bind fun b => (whereFn crit xs).bind fun rest =>
      .ok (if b then x :: rest else rest) := by
  rw [whereFn]; cases crit x <;> simp only [Res.bind]
  rename_i out
  match out with
  | [] | [.bool _] | [.other] | .bool _ :: _ :: _ | .other :: _ :: _ =>
    cases whereFn crit xs <;> simp [toSingletonBoolean, Model.toBool]

theorem allFn_cons (crit : α → Res (List BItem)) (x : α) (xs : List α) :
    allFn crit (x :: xs) = ((crit x).bind Model.toBool).bind fun b => if b then allFn crit xs else .ok false := by
  rw [allFn]; cases crit x <;> simp only [Res.bind]
  cases h : Model.toBool _ <;> simp only []
  rename_i b; cases b <;> rfl

theorem whereFn_eq_filter (crit : α → Res (List BItem)) (t : α → Bool) (c : List α)
    (h : ∀ x ∈ c, (crit x).bind Model.toBool = .ok (t x)) : whereFn crit c = .ok (c.filter t) := by
  induction c with
  | nil => rfl
  | cons x xs ih =>
    rw [whereFn_cons, h x List.mem_cons_self, ih fun y hy => h y (List.mem_cons_of_mem _ hy), List.filter_cons]
    cases t x <;> rfl

theorem allFn_eq_all (crit : α → Res (List BItem)) (t : α → Bool) (c : List α)
    (h : ∀ x ∈ c, (crit x).bind Model.toBool = .ok (t x)) : allFn crit c = .ok (c.all t) := by
  induction c with
  | nil => rfl
  | cons x xs ih =>
    rw [allFn_cons, h x List.mem_cons_self, List.all_cons]
    cases t x
    · rfl
    · exact ih fun y hy => h y (List.mem_cons_of_mem _ hy)

variable {β : Type}

theorem selectFn_cons (f : α → Res (List β)) (x : α) (xs : List α) :
    selectFn f (x :: xs) = (f x).bind fun out => (selectFn f xs).bind fun rest => .ok (out ++ rest) := by
  rw [selectFn]; cases f x <;> simp only [Res.bind]; cases selectFn f xs <;> rfl

theorem selectFn_append (f : α → Res (List β)) (a b : List α) :
    selectFn f (a ++ b) = (selectFn f a).bind fun x => (selectFn f b).bind fun y => .ok (x ++ y) := by
  induction a with
  | nil => cases h : selectFn f b <;> simp [selectFn, Res.bind, h]
  | cons x xs ih =>
    rw [List.cons_append, selectFn_cons, selectFn_cons, ih]
    cases f x <;> simp only [Res.bind]
    cases selectFn f xs <;> simp only []
    cases selectFn f b <;> simp only [List.append_assoc]

theorem selectFn_ok (f : α → Res (List β)) (c : List α) (outs : List (List β)) (h : c.map f = outs.map .ok) :
    selectFn f c = .ok outs.flatten := by
  induction c generalizing outs with
  | nil => cases outs <;> simp_all [selectFn]
  | cons x xs ih =>
    cases outs with
    | nil => simp at h
    | cons o os =>
      simp only [List.map_cons, List.cons.injEq] at h
      rw [selectFn_cons, h.1, ih os h.2]; rfl

theorem selectFn_err (f : α → Res (List β)) (pre : List α) (x : α) (post : List α)
    (hpre : ∀ p ∈ pre, ∃ o, f p = .ok o) (e : String) (he : f x = .err e) : selectFn f (pre ++ x :: post) = .err e := by
  induction pre with
  | nil => rw [List.nil_append, selectFn_cons, he]; rfl
  | cons p ps ih =>
    obtain ⟨o, ho⟩ := hpre p (by simp)
    rw [List.cons_append, selectFn_cons, ho, ih fun q hq => hpre q (by simp [hq])]; rfl

end FP.Lemmas.Coll
