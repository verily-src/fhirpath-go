/- FP.Lemmas.Calendar — the day-number bijection of FP.Model.Calendar, by way of March-based coordinates (year `y'`
   starting on March 1st, month `mp` = 0 … 11, day of the year `doy`), in which a leap day ends its year; then what
   `addDays`, `addNanos` and `applyShift` move exactly or keep. -/
import FP.Model.Calendar
namespace FP.Lemmas.Calendar
open FP.Model.Text FP.Model.Calendar

theorem yearStart_succ (y : Int) : yearStart (y + 1) - yearStart y = if isLeap (y + 1) then 366 else 365 := by
  -- either way: the leap rule as divisibility of `y + 1`, then the divisions of `yearStart`
  by_cases h : isLeap (y + 1) = true
  · rw [if_pos h]; simp [isLeap] at h; unfold yearStart; omega
  · rw [if_neg h]; simp [isLeap] at h; unfold yearStart; omega

theorem yearStart_step (y : Int) : 365 ≤ yearStart (y + 1) - yearStart y ∧ yearStart (y + 1) - yearStart y ≤ 366 := by
  rw [yearStart_succ]; split <;> omega

theorem yearStart_bounds (y : Int) : 146097 * y - 699 ≤ 400 * yearStart y ∧ 400 * yearStart y ≤ 146097 * y + 396 := by
  unfold yearStart; omega

theorem yearOf_spec (z : Int) : yearStart (yearOf z) ≤ z ∧ z < yearStart (yearOf z + 1) := by
  unfold yearOf
  have hy0 : 146097 * ((400 * z) / 146097) ≤ 400 * z ∧ 400 * z < 146097 * ((400 * z) / 146097) + 146097 := by omega
  generalize (400 * z) / 146097 = y0 at *
  -- the estimate `y0` is the year or the one before it: `yearStart y0 ≤ z < yearStart (y0 + 2)`
  have b0 := yearStart_bounds y0
  have b1 := yearStart_bounds (y0 + 1)
  have s1 := yearStart_step (y0 + 1)
  dsimp only
  split <;> split <;> omega

theorem yearStart_mono (a b : Int) (hab : a ≤ b) : yearStart a + 365 * (b - a) ≤ yearStart b := by
  unfold yearStart; omega

theorem yearOf_unique (z y : Int) (h : yearStart y ≤ z ∧ z < yearStart (y + 1)) : yearOf z = y := by
  have hs := yearOf_spec z
  generalize yearOf z = y' at hs
  -- were `y' < y` or `y < y'`, the two brackets would be disjoint
  have h1 := yearStart_mono (y' + 1) y
  have h2 := yearStart_mono (y + 1) y'
  omega

/-- a month ends where the next begins, and February ends the year -/
theorem month_end (y' mp : Int) (h : 0 ≤ mp ∧ mp ≤ 11) :
    monthStart mp + daysIn (if mp < 10 then mp + 3 else mp - 9) (if mp < 10 then y' else y' + 1) =
      if mp = 11 then yearStart (y' + 1) - yearStart y' else monthStart (mp + 1) := by
  have hc : mp = 0 ∨ mp = 1 ∨ mp = 2 ∨ mp = 3 ∨ mp = 4 ∨ mp = 5 ∨ mp = 6 ∨ mp = 7 ∨ mp = 8 ∨ mp = 9 ∨ mp = 10 ∨ mp = 11 := by
    omega
  rcases hc with h | h | h | h | h | h | h | h | h | h | h | h <;> subst h <;> try rfl
  rw [yearStart_succ]
  show 337 + (if isLeap (y' + 1) then 29 else 28) = _
  split <;> rfl

theorem month_of_doy (doy : Int) (h0 : 0 ≤ doy) (h1 : doy ≤ 365) :
    0 ≤ (5 * doy + 2) / 153 ∧ (5 * doy + 2) / 153 ≤ 11 ∧ monthStart ((5 * doy + 2) / 153) ≤ doy ∧
    ((5 * doy + 2) / 153 ≠ 11 → doy < monthStart ((5 * doy + 2) / 153 + 1)) := by
  unfold monthStart; omega

theorem doy_of_month (mp d : Int) (hmp : 0 ≤ mp ∧ mp ≤ 11) (h1 : 1 ≤ d)
    (h2 : monthStart mp + d ≤ if mp = 11 then 367 else monthStart (mp + 1)) :
    0 ≤ monthStart mp + d - 1 ∧ (mp ≠ 11 → monthStart mp + d - 1 < 337) ∧ (5 * (monthStart mp + d - 1) + 2) / 153 = mp := by
  unfold monthStart at *; omega

/-! the `if`s by which `civilOfDoy` and `daysFromCivil` change coordinates are inverse to each other -/

theorem civil_of_march (y' mp m y : Int) (hmp : 0 ≤ mp ∧ mp ≤ 11) (hm : m = if mp < 10 then mp + 3 else mp - 9)
    (hy : y = if m ≤ 2 then y' + 1 else y') :
    1 ≤ m ∧ m ≤ 12 ∧ (if mp < 10 then y' else y' + 1) = y ∧
    (if m ≤ 2 then y - 1 else y) = y' ∧ (if m ≤ 2 then m + 9 else m - 3) = mp := by omega

theorem march_of_civil (y m y' mp : Int) (hm : 1 ≤ m ∧ m ≤ 12) (hy' : y' = if m ≤ 2 then y - 1 else y)
    (hmp : mp = if m ≤ 2 then m + 9 else m - 3) :
    0 ≤ mp ∧ mp ≤ 11 ∧ (if mp < 10 then y' else y' + 1) = y ∧
    (if m ≤ 2 then y' + 1 else y') = y ∧ (if mp < 10 then mp + 3 else mp - 9) = m := by omega

theorem civilOfDoy_spec (y' doy : Int) (h0 : 0 ≤ doy) (h1 : doy < yearStart (y' + 1) - yearStart y') :
    1 ≤ (civilOfDoy y' doy).2.1 ∧ (civilOfDoy y' doy).2.1 ≤ 12 ∧ 1 ≤ (civilOfDoy y' doy).2.2 ∧
    (civilOfDoy y' doy).2.2 ≤ daysIn (civilOfDoy y' doy).2.1 (civilOfDoy y' doy).1 ∧
    daysFromCivil (civilOfDoy y' doy).1 (civilOfDoy y' doy).2.1 (civilOfDoy y' doy).2.2 = yearStart y' + doy := by
  have hl := yearStart_step y'
  obtain ⟨m0, m1, m2, m3⟩ := month_of_doy doy h0 (by omega)
  obtain ⟨mp, hmp⟩ : ∃ mp, mp = (5 * doy + 2) / 153 := ⟨_, rfl⟩
  obtain ⟨m, hm⟩ : ∃ m, m = if mp < 10 then mp + 3 else mp - 9 := ⟨_, rfl⟩
  obtain ⟨y, hy⟩ : ∃ y, y = if m ≤ 2 then y' + 1 else y' := ⟨_, rfl⟩
  have hc : civilOfDoy y' doy = (y, m, doy - monthStart mp + 1) := by rw [hy, hm, hmp]; rfl
  rw [← hmp] at m0 m1 m2 m3
  obtain ⟨c1, c2, ey, e1, e2⟩ := civil_of_march y' mp m y ⟨m0, m1⟩ hm hy
  have me := month_end y' mp ⟨m0, m1⟩
  rw [← hm, ey] at me
  rw [hc]
  simp only [daysFromCivil, e1, e2]
  clear hm hy hc
  omega

theorem civilFromDays_spec (z : Int) :
    1 ≤ (civilFromDays z).2.1 ∧ (civilFromDays z).2.1 ≤ 12 ∧ 1 ≤ (civilFromDays z).2.2 ∧
    (civilFromDays z).2.2 ≤ daysIn (civilFromDays z).2.1 (civilFromDays z).1 ∧
    daysFromCivil (civilFromDays z).1 (civilFromDays z).2.1 (civilFromDays z).2.2 = z := by
  have hs := yearOf_spec z
  have h := civilOfDoy_spec (yearOf z) (z - yearStart (yearOf z)) (by omega) (by omega)
  rw [show yearStart (yearOf z) + (z - yearStart (yearOf z)) = z by omega] at h
  exact h

theorem days_civil (z : Int) : daysFromCivil (civilFromDays z).1 (civilFromDays z).2.1 (civilFromDays z).2.2 = z :=
  (civilFromDays_spec z).2.2.2.2

theorem civil_days (y m d : Int) (hm : 1 ≤ m ∧ m ≤ 12) (hd : 1 ≤ d ∧ d ≤ daysIn m y) :
    civilFromDays (daysFromCivil y m d) = (y, m, d) := by
  obtain ⟨y', hy'⟩ : ∃ y', y' = if m ≤ 2 then y - 1 else y := ⟨_, rfl⟩
  obtain ⟨mp, hmp'⟩ : ∃ mp, mp = if m ≤ 2 then m + 9 else m - 3 := ⟨_, rfl⟩
  obtain ⟨p0, p1, ey, ey', em⟩ := march_of_civil y m y' mp hm hy' hmp'
  have hmp : 0 ≤ mp ∧ mp ≤ 11 := ⟨p0, p1⟩
  have hz : daysFromCivil y m d = yearStart y' + (monthStart mp + d - 1) := by
    rw [hy', hmp']; simp only [daysFromCivil]; omega
  clear hy' hmp'
  -- the day lies in its month, hence in its year, and its month of the year is `mp` again
  have me := month_end y' mp hmp
  rw [em, ey] at me
  have hl := yearStart_step y'
  obtain ⟨d0, d1, hq⟩ := doy_of_month mp d hmp hd.1 (by omega)
  have hy : yearOf (yearStart y' + (monthStart mp + d - 1)) = y' := yearOf_unique _ _ (by omega)
  rw [hz, civilFromDays, civilOfYear, hy, Int.add_comm (yearStart y'), Int.add_sub_cancel]
  simp only [civilOfDoy, hq, em, ey']
  rw [show monthStart mp + d - 1 - monthStart mp + 1 = d by omega]

theorem daysIn_ge (m y : Int) : 28 ≤ daysIn m y := by
  unfold daysIn; split <;> (try split) <;> omega

theorem addDays_dayNumber (w : Wall) (n : Int) : dayNumber (addDays w n) = dayNumber w + n := days_civil _

theorem addMonthsClamp_offset (w : Wall) (k : Int) : (addMonthsClamp w k).offset = w.offset := rfl
-- not `rfl`: that tries `addDays w n =?= w` first and unfolds `civilFromDays`
theorem addDays_offset (w : Wall) (n : Int) : (addDays w n).offset = w.offset := by simp only [addDays]
theorem addNanos_offset (w : Wall) (ns : Int) : (addNanos w ns).offset = w.offset := by
  simp only [addNanos, withTimeOfDay, addDays]

theorem applyShift_offset (w : Wall) (s : Shift) (sign : Int) : (applyShift w s sign).offset = w.offset := by
  simp only [applyShift, apply_ite Wall.offset, addNanos_offset, addDays_offset, addMonthsClamp_offset, ite_self]

theorem shiftDateTime_offset {p : Prec} {w w' : Wall} {v : FP.Model.Dec} {u : String} {sg : Int}
    (h : shiftDateTime p w v u sg = .ok w') : w'.offset = w.offset := by
  unfold shiftDateTime at h
  split at h <;> cases h
  exact applyShift_offset _ _ _

theorem shiftTime_calendar_unit (p : Prec) (w : Wall) (v : FP.Model.Dec) (unit : String) (sign : Int)
    (u : FP.Model.Calendar.Unit) (hu : unitOf unit = some u) (hc : u = .year ∨ u = .month ∨ u = .week ∨ u = .day) :
    shiftTime p w v unit sign = .err "mismatched-unit" := by
  rcases hc with rfl | rfl | rfl | rfl <;> simp [shiftTime, hu, durationNs]

theorem instantNs_offset (w : Wall) (o : Int) :
    instantNs { w with offset := o } = instantNs w + (w.offset - o) * nsPerSec := by
  simp only [instantNs, dayNumber, timeOfDayNs, nsPerSec]; omega

theorem withTimeOfDay_tod (w : Wall) (r : Int) (h : 0 ≤ r ∧ r < nsPerDay) : timeOfDayNs (withTimeOfDay w r) = r := by
  obtain ⟨h0, h1⟩ := h
  unfold timeOfDayNs withTimeOfDay nsPerSec at *
  dsimp only
  omega

theorem addNanos_instant (w : Wall) (ns : Int) : instantNs (addNanos w ns) = instantNs w + ns := by
  have hr : 0 ≤ (timeOfDayNs w + ns) % nsPerDay ∧ (timeOfDayNs w + ns) % nsPerDay < nsPerDay := by
    unfold nsPerDay nsPerSec; omega
  have hday : dayNumber (addNanos w ns) = dayNumber w + (timeOfDayNs w + ns) / nsPerDay := addDays_dayNumber _ _
  -- whole days go to the day number, the rest is the new time of day
  rw [instantNs, hday, addNanos_offset, addNanos, withTimeOfDay_tod _ _ hr, instantNs]
  clear hr hday
  generalize hdef : timeOfDayNs w + ns = t
  unfold nsPerDay nsPerSec
  omega

end FP.Lemmas.Calendar
