/-
  FP.Lemmas.List (namespace `FP.Lemmas.Lists`) — what core does not state: `takeWhile` / `dropWhile` split a run of
  `p`-items from a rest that is empty or starts with a non-`p` item exactly there; `getD` after `set`;
  `all` on a list whose items are among those of another.
-/
namespace FP.Lemmas.Lists

variable {α : Type} (p : α → Bool) (w rest : List α)

theorem takeWhile_stop (hw : ∀ a ∈ w, p a = true) (hr : ∀ c, rest.head? = some c → p c = false) :
    (w ++ rest).takeWhile p = w := by
  rw [List.takeWhile_append_of_pos hw]
  cases rest with
  | nil => simp
  | cons x r => simp [hr x rfl]

/-- the side condition of `takeWhile_stop` / `dropWhile_stop` for a rest with a known first item -/
theorem stops_cons {q : α → Bool} {c : α} {r : List α} (h : q c = false) : ∀ x, (c :: r).head? = some x → q x = false :=
  fun _ hx => Option.some.inj hx ▸ h

theorem dropWhile_stop (hw : ∀ a ∈ w, p a = true) (hr : ∀ c, rest.head? = some c → p c = false) :
    (w ++ rest).dropWhile p = rest := by
  rw [List.dropWhile_append_of_pos hw]
  cases rest with
  | nil => rfl
  | cons x r => simp [hr x rfl]

theorem takeWhile_all (hw : ∀ a ∈ w, p a = true) : w.takeWhile p = w := by
  simpa using takeWhile_stop p w [] hw (by simp)

theorem dropWhile_all (hw : ∀ a ∈ w, p a = true) : w.dropWhile p = [] := by
  simpa using dropWhile_stop p w [] hw (by simp)

theorem getD_set {β : Type} (l : List β) (t i : Nat) (x d : β) (ht : t < l.length) :
    (l.set t x).getD i d = if t = i then x else l.getD i d := by
  simp only [List.getD, List.getElem?_set, ht]
  split <;> simp

theorem all_of_subset {β : Type} {q : β → Bool} {a b : List β} (h : a.all q = true) (hs : ∀ x ∈ b, x ∈ a) :
    b.all q = true := by
  rw [List.all_eq_true] at h ⊢; exact fun x hx => h x (hs x hx)

end FP.Lemmas.Lists
