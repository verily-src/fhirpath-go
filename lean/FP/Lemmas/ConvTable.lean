/-
  FP.Lemmas.ConvTable — `convTo t x` is `.ok o` with any value in `o` of type `t`, the two recorded
  deviations excepted (`convTo_spec`), and a value converts to itself (`convTo_self`).  Namespace
  FP.Lemmas.Conv; a module apart because FP.Lemmas.EvalTotal needs these and not the text lemmas.
-/
import FP.Model.Conv
namespace FP.Lemmas.Conv
open FP.Model.Text FP.Model.Conv

def OfTy (t : Ty) (o : Option CV) : Prop := ∀ v, o = some v → v.ty = t

@[simp] theorem ofTy_none (t : Ty) : OfTy t none := fun _ h => nomatch h
@[simp] theorem ofTy_some (t : Ty) (v : CV) : OfTy t (some v) ↔ v.ty = t := by simp [OfTy]
@[simp] theorem ofTy_map (t : Ty) {α : Type} (f : α → CV) (o : Option α) :
    OfTy t (o.map f) ↔ ∀ a, o = some a → (f a).ty = t := by
  cases o <;> simp

theorem parseDate_ofTy (s : S) : OfTy .date (parseDate s) := by
  unfold parseDate; split <;> simp [CV.ty]
theorem parseDateTime_ofTy (s : S) : OfTy .dateTime (parseDateTime s) := by
  unfold parseDateTime; split <;> simp [CV.ty]
theorem parseTime_ofTy (s : S) : OfTy .time (parseTime s) := by
  unfold parseTime; split <;> simp [CV.ty]

/-- `r` is empty or a value of type `t`, for an item `x` that `system.From` accepts (`x ≠ .complex`) -/
def Converts (t : Ty) (x : CV) (r : Res (Option CV)) : Prop := ∃ o, r = .ok o ∧ (x ≠ .complex → OfTy t o)

theorem toBooleanV_ok (x : CV) : Converts .boolean x (toBooleanV x) := by
  cases x <;> simp [Converts, toBooleanV, CV.ty]
theorem toDecimalV_ok (x : CV) : Converts .decimal x (toDecimalV x) := by
  cases x <;> simp [Converts, toDecimalV, CV.ty]
  case str s => split <;> simp [CV.ty]
theorem toDateV_ok (x : CV) : Converts .date x (toDateV x) := by
  cases x <;> simp [Converts, toDateV, CV.ty, parseDate_ofTy]
theorem toDateTimeV_ok (x : CV) : Converts .dateTime x (toDateTimeV x) := by
  cases x <;> simp [Converts, toDateTimeV, CV.ty, parseDateTime_ofTy]
theorem toTimeV_ok (x : CV) : Converts .time x (toTimeV x) := by
  cases x <;> simp [Converts, toTimeV, CV.ty, parseTime_ofTy]
theorem toQuantityV_ok (x : CV) : Converts .quantity x (toQuantityV x) := by
  cases x <;> simp [Converts, toQuantityV, CV.ty]
  case str s => split <;> simp [CV.ty]

theorem toStringV_ok (x : CV) : Converts .string x (toStringV x) := by
  cases x
  case complex => exact ⟨_, rfl, fun h => absurd rfl h⟩
  -- not `simp`: it would evaluate the literals "true", "false" inside the Boolean arm, at great cost
  all_goals exact ⟨_, rfl, fun _ => (ofTy_some _ _).mpr rfl⟩

theorem toIntegerV_ok (x : CV) :
    Converts .integer x (toIntegerV x) ∨ (∃ s, x = .str s) ∧ toIntegerV x = .err "parse" := by
  cases x <;> simp [Converts, toIntegerV, CV.ty]
  case str s => split <;> simp [CV.ty]

/-- the exceptions are the two recorded deviations: `toInteger` of a String that is no integer
    fails, `toString` of a complex item is a Boolean -/
theorem convTo_spec (t : Ty) (x : CV) :
    Converts t x (convTo t x) ∨ (t = .integer ∧ (∃ s, x = .str s) ∧ convTo t x = .err "parse") := by
  cases t
  case boolean => exact .inl (toBooleanV_ok x)
  case integer => exact (toIntegerV_ok x).imp_right fun h => ⟨rfl, h⟩
  case decimal => exact .inl (toDecimalV_ok x)
  case string => exact .inl (toStringV_ok x)
  case date => exact .inl (toDateV_ok x)
  case dateTime => exact .inl (toDateTimeV_ok x)
  case time => exact .inl (toTimeV_ok x)
  case quantity => exact .inl (toQuantityV_ok x)
  case none => exact .inl ⟨none, rfl, fun _ => ofTy_none _⟩

theorem convTo_ne_panic (t : Ty) (x : CV) : convTo t x ≠ .panic := by
  rcases convTo_spec t x with ⟨o, h, -⟩ | ⟨-, -, h⟩ <;> simp [h]

theorem convTo_ty (t : Ty) (x v : CV) (hx : x ≠ .complex) (h : convTo t x = .ok (some v)) : v.ty = t := by
  rcases convTo_spec t x with ⟨o, ho, hty⟩ | ⟨-, -, he⟩
  · exact hty hx v (Res.ok.inj (ho.symm.trans h))
  · rw [he] at h; cases h

theorem convTo_self (x : CV) (hx : x ≠ .complex) : convTo x.ty x = .ok (some x) := by
  cases x
  case complex => exact absurd rfl hx
  all_goals rfl

end FP.Lemmas.Conv
