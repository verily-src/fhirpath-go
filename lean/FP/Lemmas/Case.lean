/- FP.Lemmas.Case — `asciiUpper` / `asciiLower` (FP.Model.Eval) as maps on character codes; idempotence, lower after
   upper and staying within ASCII are then arithmetic on codes. -/
import FP.Model.Eval
namespace FP.Lemmas.Case
open FP.Model.Eval

theorem toNat_ofNat_small (n : Nat) (h : n < 55296) : (Char.ofNat n).toNat = n := by
  have hv : n.isValidChar := Or.inl h
  unfold Char.ofNat
  simp only [hv, dite_true]
  simp [Char.ofNatAux, Char.toNat, UInt32.toNat_ofNatLT]

theorem asciiUpper_toNat (c : Char) :
    (asciiUpper c).toNat = if 97 ≤ c.toNat ∧ c.toNat ≤ 122 then c.toNat - 32 else c.toNat := by
  unfold asciiUpper
  split
  · rename_i h
    have h1 : 97 ≤ c.toNat := h.1
    have h2 : c.toNat ≤ 122 := h.2
    rw [toNat_ofNat_small _ (by omega), if_pos ⟨h1, h2⟩]
  · rename_i h
    rw [if_neg fun h' => h ⟨h'.1, h'.2⟩]

theorem asciiLower_toNat (c : Char) :
    (asciiLower c).toNat = if 65 ≤ c.toNat ∧ c.toNat ≤ 90 then c.toNat + 32 else c.toNat := by
  unfold asciiLower
  split
  · rename_i h
    have h1 : 65 ≤ c.toNat := h.1
    have h2 : c.toNat ≤ 90 := h.2
    rw [toNat_ofNat_small _ (by omega), if_pos ⟨h1, h2⟩]
  · rename_i h
    rw [if_neg fun h' => h ⟨h'.1, h'.2⟩]

theorem asciiUpper_idem (c : Char) : asciiUpper (asciiUpper c) = asciiUpper c := by
  apply Char.toNat_inj.mp
  rw [asciiUpper_toNat (asciiUpper c), asciiUpper_toNat c]
  (repeat' split) <;> omega

theorem asciiLower_idem (c : Char) : asciiLower (asciiLower c) = asciiLower c := by
  apply Char.toNat_inj.mp
  rw [asciiLower_toNat (asciiLower c), asciiLower_toNat c]
  (repeat' split) <;> omega

theorem asciiLower_upper (c : Char) : asciiLower (asciiUpper c) = asciiLower c := by
  apply Char.toNat_inj.mp
  rw [asciiLower_toNat (asciiUpper c), asciiLower_toNat c, asciiUpper_toNat c]
  (repeat' split) <;> omega

theorem ascii_stays_ascii (c : Char) (h : c.toNat < 128) : (asciiUpper c).toNat < 128 ∧ (asciiLower c).toNat < 128 := by
  rw [asciiUpper_toNat, asciiLower_toNat]
  constructor <;> split <;> omega

end FP.Lemmas.Case
