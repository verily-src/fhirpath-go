/-
  FP.Lemmas.Strings — FP.Model.Strings: `isPrefix` and `substring` as core `List` operations; what a non-negative
  result of the `indexOf` scan is; `replaceGo` with the pattern as its own replacement.
-/
import FP.Model.Strings
namespace FP.Lemmas.Strings
open FP.Model

theorem isPrefix_eq (t s : Str) : isPrefix t s = t.isPrefixOf s := by
  induction t generalizing s with
  | nil => rfl
  | cons c cs ih => cases s <;> simp [isPrefix, List.isPrefixOf, ih]

theorem isPrefix_iff (t s : Str) : isPrefix t s = true ↔ ∃ u, s = t ++ u := by
  rw [isPrefix_eq, List.isPrefixOf_iff_prefix]
  exact ⟨fun ⟨u, h⟩ => ⟨u, h.symm⟩, fun ⟨u, h⟩ => ⟨u, h.symm⟩⟩

theorem indexOfAux_eq_add (t s : Str) (i0 : Nat) (i : Int) (h : indexOfAux t s i0 = i) (hi : i ≥ 0) :
    ∃ k : Nat, i = i0 + k ∧ k ≤ s.length ∧ isPrefix t (s.drop k) = true := by
  induction s generalizing i0 with
  | nil =>
    rw [indexOfAux] at h
    split at h
    · exact ⟨0, by omega, Nat.le_refl _, by rw [List.isEmpty_iff.mp ‹t.isEmpty = true›]; rfl⟩
    · omega
  | cons c cs ih =>
    rw [indexOfAux] at h
    split at h
    · exact ⟨0, by omega, Nat.zero_le _, ‹_›⟩
    · obtain ⟨k, hk, hle, hp⟩ := ih (i0 + 1) h
      exact ⟨k + 1, by omega, Nat.succ_le_succ hle, hp⟩

theorem substring_none (s : Str) (start : Int) (h0 : 0 ≤ start) (h1 : start < s.length) :
    substring s start none = some (s.drop start.toNat) := by
  rw [substring, if_neg (by omega)]

/-- the model's guard `start + l < length` only spells out what `List.take` does beyond the end -/
theorem substring_some (s : Str) (start l : Int) (h0 : 0 ≤ start) (h1 : start < s.length) (hl : 0 ≤ l) :
    substring s start (some l) = some ((s.drop start.toNat).take l.toNat) := by
  rw [substring, if_neg (by omega)]
  simp only []
  split
  · rfl
  · rw [List.take_of_length_le (by rw [List.length_drop]; omega)]

/-- in every state the `skip` characters still to drop are what was already emitted -/
theorem replaceGo_self (p : Str) (hp : p ≠ []) (s : Str) (skip : Nat) : replaceGo p p skip s = s.drop skip := by
  induction s generalizing skip with
  | nil => simp [replaceGo]
  | cons c cs ih =>
    cases skip with
    | succ k => rw [replaceGo, ih, List.drop_succ_cons]
    | zero =>
      rw [replaceGo, ih, ih, List.drop_zero, List.drop_zero]
      split
      · rename_i hpre
        obtain ⟨u, hu⟩ := (isPrefix_iff p (c :: cs)).mp hpre
        cases p with
        | nil => exact absurd rfl hp
        | cons q qs =>
          obtain ⟨rfl, rfl⟩ := List.cons.inj hu
          simp
      · rfl

end FP.Lemmas.Strings
