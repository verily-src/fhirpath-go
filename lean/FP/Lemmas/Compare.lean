/- FP.Lemmas.Compare (declared into `FP.Lemmas`) — FP.Model.Compare: the component loops of temporal TryEqual / Less
   and `lexLt` on instants as strict orders, the two comparison paths built on them, and the negated operators. -/
import FP.Model.Compare
namespace FP.Lemmas
open FP.Model

theorem eqLoopF_symm (k : TKind) (fa fb : Nat → Int) (i n : Nat) : eqLoopF k fa fb i n = eqLoopF k fb fa i n := by
  induction n generalizing i with
  | zero => rfl
  | succ n ih =>
    unfold eqLoopF
    by_cases h : fa i = fb i
    · simp [h, ih]
    · have h' : ¬ fb i = fa i := fun e => h e.symm
      simp [h, h']

theorem ltLoopF_none_iff (k : TKind) (fa fb : Nat → Int) (i n : Nat) :
    ltLoopF k fa fb i n = none ↔ eqLoopF k fa fb i n = none := by
  induction n generalizing i with
  | zero => simp [ltLoopF, eqLoopF]
  | succ n ih =>
    unfold ltLoopF eqLoopF
    by_cases h : fa i = fb i ∧ secondIdx k ≠ some i
    · rw [if_pos h, if_pos h]; exact ih (i + 1)
    · rw [if_neg h, if_neg h]; simp

theorem ltLoopF_none_symm (k : TKind) (fa fb : Nat → Int) (i n : Nat) :
    ltLoopF k fa fb i n = none ↔ ltLoopF k fb fa i n = none := by
  rw [ltLoopF_none_iff, ltLoopF_none_iff, eqLoopF_symm]

/-- one turn of the loop of `Less` is the step of a lexicographic order (but the loop stops at the `second` index) -/
theorem ltLoopF_succ (k : TKind) (fa fb : Nat → Int) (i n : Nat) :
    ltLoopF k fa fb i (n + 1) = some true ↔
      fa i < fb i ∨ (fa i = fb i ∧ secondIdx k ≠ some i ∧ ltLoopF k fa fb (i + 1) n = some true) := by
  rw [ltLoopF]
  split
  · -- the loop goes on: equal here, so not smaller here
    rename_i h
    simp [h.1, h.2]
  · -- the loop stops: `<` here decides, and "equal here and not `second`" is the test that just failed
    rename_i h
    simp only [Option.some.injEq, decide_eq_true_eq]
    exact ⟨Or.inl, fun h' => h'.elim id fun ⟨e, s, _⟩ => absurd ⟨e, s⟩ h⟩

theorem ltLoopF_asymm (k : TKind) (fa fb : Nat → Int) (i n : Nat) :
    ltLoopF k fa fb i n = some true → ltLoopF k fb fa i n ≠ some true := by
  induction n generalizing i with
  | zero => simp [ltLoopF]
  | succ n ih =>
    intro h1 h2
    rw [ltLoopF_succ] at h1 h2
    rcases h1 with h1 | ⟨_, _, t1⟩ <;> rcases h2 with h2 | ⟨_, _, t2⟩
    · omega
    · omega
    · omega
    · exact ih (i + 1) t1 t2

theorem ltLoopF_excludes_eq (k : TKind) (fa fb : Nat → Int) (i n : Nat) :
    ltLoopF k fa fb i n = some true → eqLoopF k fa fb i n ≠ some true := by
  induction n generalizing i with
  | zero => simp [ltLoopF]
  | succ n ih =>
    unfold ltLoopF eqLoopF
    by_cases h : fa i = fb i
    · by_cases hs : secondIdx k = some i
      · simp [h, hs]
      · simp [h, hs]; exact ih (i + 1)
    · -- the loops stop here; `eqLoopF` then answers `false` for a Date and `fa i = fb i`, which is false, otherwise
      simp [h]; cases k <;> simp

/-- the first index at which `a`, `b` or `b`, `c` differ decides; `min n1 n2 ≤ n3` keeps it within the third loop -/
theorem ltLoopF_trans (k : TKind) (fa fb fc : Nat → Int) (i n1 n2 n3 : Nat) (h3 : min n1 n2 ≤ n3) :
    ltLoopF k fa fb i n1 = some true → ltLoopF k fb fc i n2 = some true → ltLoopF k fa fc i n3 = some true := by
  induction n1 generalizing i n2 n3 with
  | zero => simp [ltLoopF]
  | succ n1 ih =>
    cases n2 with
    | zero => simp [ltLoopF]
    | succ n2 =>
      cases n3 with
      | zero => omega
      | succ n3 =>
        rw [ltLoopF_succ, ltLoopF_succ, ltLoopF_succ]
        rintro (h1 | ⟨e1, s1, t1⟩) (h2 | ⟨e2, _, t2⟩)
        · left; omega
        · left; omega
        · left; omega
        · right; exact ⟨by omega, s1, ih (i + 1) n2 n3 (by omega) t1 t2⟩

theorem slowLess_true_iff (k : TKind) (a b : Tmp) :
    slowLess k a b = .ok true ↔ ltLoopF k (nth a.comps) (nth b.comps) 0 (min (prec k a) (prec k b) + 1) = some true := by
  unfold slowLess ltLoop
  cases ltLoopF k (nth a.comps) (nth b.comps) 0 (min (prec k a) (prec k b) + 1) with
  | some r => simp
  | none => simp; split <;> simp

theorem slowLess_error_symm (k : TKind) (a b : Tmp) (e : String) :
    slowLess k a b = .error e ↔ slowLess k b a = .error e := by
  have h := ltLoopF_none_symm k (nth a.comps) (nth b.comps) 0 (min (prec k a) (prec k b) + 1)
  unfold slowLess ltLoop
  rw [Nat.min_comm (prec k b), BEq.comm (a := prec k b)]
  cases h1 : ltLoopF k (nth a.comps) (nth b.comps) 0 (min (prec k a) (prec k b) + 1) <;>
    cases h2 : ltLoopF k (nth b.comps) (nth a.comps) 0 (min (prec k a) (prec k b) + 1) <;> simp_all

theorem slowEq_symm (k : TKind) (a b : Tmp) : slowEq k a b = slowEq k b a := by
  unfold slowEq eqLoop
  rw [Nat.min_comm (prec k b), eqLoopF_symm k (nth b.comps), BEq.comm (a := prec k b)]

theorem slowEq_true_iff (k : TKind) (a b : Tmp) :
    slowEq k a b = (true, true) ↔
      (eqLoopF k (nth a.comps) (nth b.comps) 0 (min (prec k a) (prec k b) + 1) = some true ∨
       (eqLoopF k (nth a.comps) (nth b.comps) 0 (min (prec k a) (prec k b) + 1) = none ∧ k = .dateTime ∧ prec k a = prec k b)) := by
  unfold slowEq eqLoop
  cases eqLoopF k (nth a.comps) (nth b.comps) 0 (min (prec k a) (prec k b) + 1) with
  | some r => simp
  | none =>
    by_cases c : k = .dateTime ∧ prec k a = prec k b
    · simp [c]
    · have c' : ¬ ((k == TKind.dateTime && prec k a == prec k b) = true) := by simpa using c
      simp [c', c]

theorem instPath_symm (a b : Tmp) : instPath a b = instPath b a := by
  by_cases h : a.layout = b.layout
  · rw [instPath, instPath, h]
  · rw [instPath, instPath, beq_eq_false_iff_ne.mpr h, beq_eq_false_iff_ne.mpr (Ne.symm h)]; rfl

theorem instPath_trans {a b c : Tmp} (hab : instPath a b = true) (hbc : instPath b c = true) : instPath a c = true := by
  unfold instPath at *
  simp only [Bool.and_eq_true, beq_iff_eq, bne_iff_ne, ne_eq] at *
  exact ⟨hab.1.trans hbc.1, hab.2⟩

theorem lexLt_irrefl (a : List Int) : lexLt a a = false := by
  induction a with
  | nil => rfl
  | cons x xs ih => simp [lexLt, ih]

theorem lexLt_trans (a b c : List Int) : lexLt a b = true → lexLt b c = true → lexLt a c = true := by
  induction a generalizing b c with
  | nil => intro h; simp [lexLt] at h
  | cons x xs ih =>
    cases b with
    | nil => intro h; simp [lexLt] at h
    | cons y ys =>
      cases c with
      | nil => intro _ h; simp [lexLt] at h
      | cons z zs =>
        simp only [lexLt, Bool.or_eq_true, decide_eq_true_eq, Bool.and_eq_true, beq_iff_eq]
        intro h1 h2
        rcases h1 with h1 | ⟨e1, t1⟩ <;> rcases h2 with h2 | ⟨e2, t2⟩
        · left; omega
        · left; omega
        · left; omega
        · right; exact ⟨by omega, ih ys zs t1 t2⟩

theorem lexLt_asymm (a b : List Int) (h : lexLt a b = true) : lexLt b a = false := by
  cases hb : lexLt b a with
  | false => rfl
  | true => rw [← lexLt_irrefl a, ← lexLt_trans a b a h hb]

theorem lexLt_ne (a b : List Int) : lexLt a b = true → a ≠ b := by
  intro h e; subst e; rw [lexLt_irrefl] at h; exact Bool.false_ne_true h

theorem ne_is_negation (l r : List Item) : eqExpr true l r = (eqExpr false l r).map (!·) := by
  unfold eqExpr
  by_cases h : (l.isEmpty || r.isEmpty) = true
  · simp [h]
  · simp only [h]
    by_cases h2 : (collTryEqual l r).2 <;> simp [h2]

/-- `<=` from `>`, `>=` from `<`: both operators read the one pair of `Less` results -/
theorem cmpExpr_not (op op' : CmpOp) (h : ∀ lt gt, pick op lt gt = !pick op' lt gt) (l r : List (Option Val)) :
    cmpExpr op l r = (cmpExpr op' l r).bind (fun b => .ok (b.map (!·))) := by
  unfold cmpExpr
  rcases cmpCore l r with (_ | ⟨_, _⟩) | _ | _ <;> simp [Res.bind, h]

end FP.Lemmas
