/- FP.Lemmas.Options — option lists are applied part by part and only append to the variable map; one unsupported
   item makes a collection unsupported wherever it stands; which signatures `validateFunc` accepts. -/
import FP.Model.Options
namespace FP.Lemmas.Options
open FP.Model

theorem applyAll_append (m : EnvMap) (xs ys : List EnvOpt) :
    applyAll m (xs ++ ys) = ((applyAll (applyAll m xs).1 ys).1, (applyAll m xs).2 ++ (applyAll (applyAll m xs).1 ys).2) := by
  induction xs generalizing m with
  | nil => rfl
  | cons x xs ih => simp only [List.cons_append, applyAll, ih, List.append_assoc]

theorem get_append (m e : EnvMap) (n : String) : (m ++ e).get n = (m.get n).or (e.get n) := by
  simp only [EnvMap.get, List.find?_append]
  cases m.find? (fun p => p.1 == n) <;> rfl

theorem has_eq_isSome (m : EnvMap) (n : String) : m.has n = (m.get n).isSome := by
  rw [EnvMap.has, EnvMap.get, Option.isSome_map, Bool.eq_iff_iff, List.any_eq_true, List.find?_isSome]

theorem applyAll_get (m : EnvMap) (os : List EnvOpt) (n : String) (v : VShape) (h : m.get n = some v) :
    (applyAll m os).1.get n = some v := by
  induction os generalizing m with
  | nil => exact h
  | cons o os ih =>
    apply ih
    unfold applyEnv
    split
    · exact h
    · split
      · exact h
      · rw [get_append, h]; rfl

theorem validItems_mid (pre post : List VShape) (v : VShape) (h : validShape.validItems (v :: post) = false) :
    validShape.validItems (pre ++ v :: post) = false := by
  induction pre with
  | nil => exact h
  | cons p ps ih => cases p <;> simp [validShape.validItems, ih]

theorem coll_invalid_of_item (pre post : List VShape) (v : VShape) (h : validShape v = false) :
    validShape (.coll (pre ++ v :: post)) = false := by
  refine validItems_mid pre post v ?_
  cases v with
  | sys _ | elem _ => simp [validShape] at h
  | coll _ | bad => rfl

theorem validateSig_eq_nil_iff (s : Sig) :
    validateSig s = [] ↔ s.isFunc = true ∧ s.ins.head? = some .collection ∧ s.outs = [.collection, .error] := by
  obtain ⟨f, ins, outs⟩ := s
  cases f
  · simp [validateSig]
  · cases ins with
    | nil => simp [validateSig]
    | cons t ts => by_cases ht : t = .collection <;> by_cases ho : outs = [.collection, .error] <;> simp [validateSig, ht, ho]

end FP.Lemmas.Options
