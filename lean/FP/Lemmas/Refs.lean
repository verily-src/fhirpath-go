/-
  FP.Lemmas.Refs — FP.Model.Refs (namespace `FP.Lemmas`): ids and type names are runs of id characters, which contain
  none of `/`, `#`, `|`; so `lastSeg` peels a formatted identity segment by segment from the right, and `restParse`
  reads it back, relative or behind a service base.  `identEq` / `refIs` past the structural test.
-/
import FP.Model.Refs
import FP.Lemmas.Bytes
import FP.Lemmas.List
namespace FP.Lemmas
open FP.Model FP.Lemmas.Lists

theorem lastSeg_noslash (s : S) (h : '/' ∉ s) : lastSeg s = (none, s) := by
  induction s with
  | nil => rfl
  | cons c cs ih =>
    have hc : c ≠ '/' := fun e => h (by simp [e])
    have hcs : '/' ∉ cs := fun m => h (List.mem_cons_of_mem _ m)
    simp [lastSeg, ih hcs, hc]

theorem lastSeg_append (p s : S) (h : '/' ∉ s) : lastSeg (p ++ '/' :: s) = (some p, s) := by
  induction p with
  | nil => simp [lastSeg, lastSeg_noslash s h]
  | cons c cs ih => simp [lastSeg, ih]

theorem idChar_cases (c : Char) (h : isIdChar c = true) : c.isAlphanum ∨ c = '-' ∨ c = '.' ∨ c = '/' ∨ c = '_' := by
  simp only [isIdChar, Bool.or_eq_true, beq_iff_eq] at h
  rcases h with (h | h) | h <;> simp [h]

theorem isID_chars (s : S) (h : isID s = true) : ∀ c ∈ s, isIdChar c = true := by
  simp only [isID, Bool.and_eq_true, List.all_eq_true] at h
  exact h.2

theorem types_alpha : FP.Gen.Schema.resourceTypes.all (fun r => r.name.toList.all Char.isAlpha) = true := by
  have h : FP.Gen.Schema.resourceTypes.all (fun r =>
      Bytes.isAscii r.name && (Bytes.asciiChars r.name).all Char.isAlpha) = true := by decide +kernel
  exact List.all_eq_true.mpr fun r hr => Bytes.of_ascii (P := (·.all Char.isAlpha)) (List.all_eq_true.mp h r hr)

theorem isType_chars (t : S) (h : isType t = true) : ∀ c ∈ t, isIdChar c = true := by
  simp only [isType, FP.Gen.Schema.isValidResourceType, List.any_eq_true, beq_iff_eq] at h
  obtain ⟨r, hr, he⟩ := h
  have := List.all_eq_true.mp types_alpha r hr
  rw [he] at this
  intro c hc
  have hc : c.isAlpha = true := by simpa using List.all_eq_true.mp this c (by simpa using hc)
  simp [isIdChar, Char.isAlphanum, hc]

theorem noslash (s : S) (h : ∀ c ∈ s, isIdChar c = true) : '/' ∉ s :=
  fun m => absurd (h _ m) (by decide)

theorem isType_ne_history (t : S) (h : isType t = true) : (t == "_history".toList) = false := by
  rw [beq_eq_false_iff_ne]
  rintro rfl
  exact absurd (isType_chars _ h '_' (by decide)) (by decide)

theorem noHashBar_of_alnum (s : S) (h : ∀ c ∈ s, c.isAlphanum ∨ c = '-' ∨ c = '.' ∨ c = '/' ∨ c = '_') :
    s.contains '#' = false ∧ s.contains '|' = false := by
  simp only [List.contains_eq_mem, decide_eq_false_iff_not]
  -- neither `#` nor `|` is one of the characters `h` allows
  exact ⟨fun m => absurd (h _ m) (by decide), fun m => absurd (h _ m) (by decide)⟩

theorem trimRightSlash_eq_self (b : S) (h : b.getLast? ≠ some '/') : trimRightSlash b = b := by
  have hr : ∀ c, b.reverse.head? = some c → (c == '/') = false := fun c hc =>
    beq_eq_false_iff_ne.mpr fun e => h (by rw [← List.head?_reverse, hc, e])
  rw [trimRightSlash, ← List.nil_append b.reverse, dropWhile_stop _ [] _ (by simp) hr, List.reverse_reverse]

/-- what may stand in front of `Type/id…`: nothing, or a service base and a slash -/
def pfx : Option S → S
  | none => []
  | some b => b ++ ['/']

theorem lastSeg_pfx (p : Option S) (s : S) (h : '/' ∉ s) : lastSeg (pfx p ++ s) = (p, s) := by
  cases p with
  | none => exact lastSeg_noslash s h
  | some b => simpa [pfx] using lastSeg_append b s h

theorem restParse_pfx (p : Option S) (hp : ∀ b, p = some b → isBaseWithSlash (b ++ ['/']) = true ∧ b.getLast? ≠ some '/')
    (t i v : S) (ht : isType t = true) (hi : isID i = true) (hv : v = [] ∨ isID v = true) :
    restParse (pfx p ++ identString ⟨t, i, v⟩) = some { ident := some ⟨t, i, v⟩, base := p.getD [] } := by
  have st := lastSeg_pfx p t (noslash t (isType_chars t ht))
  have si := fun q => lastSeg_pfx q i (noslash i (isID_chars i hi))
  have hb : ∀ b, p = some b → isBaseWithSlash (b ++ ['/']) = true ∧ trimRightSlash b = b :=
    fun b e => ⟨(hp b e).1, trimRightSlash_eq_self b (hp b e).2⟩
  -- written as nested `pfx q ++ segment`, every segment comes off the right by `lastSeg_pfx`
  rcases hv with rfl | hv
  · rw [show pfx p ++ identString ⟨t, i, []⟩ = pfx (some (pfx p ++ t)) ++ i by simp [identString, pfx]]
    simp only [restParse, si, st, isType_ne_history t ht, Bool.false_and, Bool.false_eq_true, if_false, hi, ht, Bool.and_self, if_true]
    cases p with
    | none => rfl
    | some b => simp [hb b rfl]
  · have sv := fun q => lastSeg_pfx q v (noslash v (isID_chars v hv))
    have sh := fun q => lastSeg_pfx q "_history".toList (by decide)
    have hve : v.isEmpty = false := by cases v <;> simp_all [isID]
    rw [show pfx p ++ identString ⟨t, i, v⟩ =
        pfx (some (pfx (some (pfx (some (pfx p ++ t)) ++ i)) ++ "_history".toList)) ++ v by simp [identString, pfx, hve]]
    simp only [restParse, sv, sh, si, st, beq_self_eq_true, hv, Bool.and_self, if_true, hi, ht]
    cases p with
    | none => rfl
    | some b => simp [hb b rfl]

theorem identString_noHashBar (t i v : S) (ht : isType t = true) (hi : isID i = true) (hv : v = [] ∨ isID v = true) :
    (identString ⟨t, i, v⟩).contains '#' = false ∧ (identString ⟨t, i, v⟩).contains '|' = false := by
  have hvs : ∀ c ∈ v, isIdChar c = true := by
    rcases hv with rfl | hv
    · simp
    · exact isID_chars v hv
  have seg : ∀ s : S, (∀ c ∈ s, isIdChar c = true) → ∀ c ∈ s, _ := fun s hs c hc => idChar_cases c (hs c hc)
  apply noHashBar_of_alnum
  unfold identString
  split <;> simp only [List.forall_mem_append]
  · exact ⟨⟨seg t (isType_chars t ht), by simp⟩, seg i (isID_chars i hi)⟩
  · exact ⟨⟨⟨⟨seg t (isType_chars t ht), by simp⟩, seg i (isID_chars i hi)⟩, by decide⟩, seg v hvs⟩

theorem identEq_comm (x y : Option Ident) : identEq x y = identEq y x := by
  cases x <;> cases y <;> simp [identEq, BEq.comm]

theorem identEq_trans {x y z : Option Ident} (h1 : identEq x y = true) (h2 : identEq y z = true) :
    identEq x z = true := by
  cases x <;> cases y <;> cases z <;> simp_all [identEq]

theorem identEq_none (x : Option Ident) : identEq x none = false ∧ identEq none x = false := by
  cases x <;> exact ⟨rfl, rfl⟩

theorem refIs_of_ne {a b : RefA} (h : a.whole ≠ b.whole) :
    refIs a b = (a.identifier == b.identifier &&
      (if a.hasRef || b.hasRef then identEq a.identity b.identity else true)) := by
  rw [refIs, if_neg (by simpa using h)]
  by_cases hi : a.identifier = b.identifier <;> simp [hi, bne]

end FP.Lemmas
