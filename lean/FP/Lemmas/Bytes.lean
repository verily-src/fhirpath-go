/-
  FP.Lemmas.Bytes — the kernel reaches the UTF-8 bytes of a string literal by encoding it; for `String.toList` it encodes
  and then decodes again, at several times the price, and a sweep that looks at the characters of a table's names pays
  that per row.  What such a sweep asks is read off the bytes: for any string where only an ASCII byte or the first
  byte matters, and the whole character list of an ASCII string.
-/
namespace FP.Lemmas.Bytes

def bytes (s : String) : List UInt8 := s.toByteArray.data.toList

theorem bytes_eq (s : String) : bytes s = s.toList.flatMap String.utf8EncodeChar := by
  rw [bytes, ← String.ofList_toList (s := s), String.toByteArray_ofList, List.utf8Encode, List.data_toByteArray,
    String.toList_ofList]

theorem mem_encode_ascii (c : Char) (b : UInt8) (hb : b.toNat < 128) :
    b ∈ String.utf8EncodeChar c ↔ c.toNat = b.toNat := by
  have e : ∀ n : Nat, b = UInt8.ofNat n ↔ b.toNat = n % 256 := fun n => by simp [← UInt8.toNat_inj]
  unfold String.utf8EncodeChar
  simp only [Char.toNat]
  generalize c.val.toNat = v
  -- every byte is `v` itself or at least 128
  repeat' split
  all_goals simp only [List.mem_cons, List.not_mem_nil, e, or_false]; omega

theorem head_encode_isUpper (c : Char) : ∃ b t, String.utf8EncodeChar c = b :: t ∧ (65 ≤ b && b ≤ 90) = c.isUpper := by
  have hu : c.isUpper = (decide (65 ≤ c.val.toNat) && decide (c.val.toNat ≤ 90)) := by
    simp [Char.isUpper, UInt32.le_iff_toNat_le]
  rw [hu]
  unfold String.utf8EncodeChar
  dsimp only
  generalize c.val.toNat = v
  -- the first byte is `v` itself or at least 192
  repeat' split
  all_goals refine ⟨_, _, rfl, ?_⟩
  all_goals rw [Bool.eq_iff_iff]; simp [UInt8.le_iff_toNat_le]; omega

theorem encode_of_ascii (c : Char) (h : ∀ b ∈ String.utf8EncodeChar c, b.toNat < 128) :
    String.utf8EncodeChar c = [UInt8.ofNat c.toNat] ∧ c.toNat < 128 := by
  obtain ⟨b, t, hb, -⟩ := head_encode_isUpper c
  have hc := (mem_encode_ascii c b (h b (by simp [hb]))).mp (by simp [hb])
  have hlt := h b (by simp [hb])
  unfold String.utf8EncodeChar at *
  simp only [Char.toNat] at *
  split
  · exact ⟨rfl, by omega⟩
  · omega

def isAscii (s : String) : Bool := (bytes s).all (· < 128)
def asciiChars (s : String) : List Char := (bytes s).map fun b => Char.ofNat b.toNat

theorem toList_of_ascii {s : String} (h : isAscii s = true) : s.toList = asciiChars s := by
  rw [isAscii, bytes_eq] at h
  rw [asciiChars, bytes_eq]
  generalize s.toList = l at h ⊢
  induction l with
  | nil => rfl
  | cons c cs ih =>
    simp only [List.flatMap_cons, List.all_append, Bool.and_eq_true] at h
    obtain ⟨he, hlt⟩ := encode_of_ascii c (by simpa [UInt8.lt_iff_toNat_lt] using h.1)
    simp [he, ← ih h.2, Nat.mod_eq_of_lt (Nat.lt_trans hlt (by decide : 128 < 256))]

theorem of_ascii {s : String} {P : List Char → Bool} (h : (isAscii s && P (asciiChars s)) = true) :
    P s.toList = true := by
  rw [Bool.and_eq_true] at h
  rw [toList_of_ascii h.1]; exact h.2

end FP.Lemmas.Bytes
