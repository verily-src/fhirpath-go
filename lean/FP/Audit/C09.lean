import FP.Props.C09
#print axioms FP.Props.C09.calendar_bijection
#print axioms FP.Props.C09.addDays_valid
#print axioms FP.Props.C09.week_is_seven_days
#print axioms FP.Props.C09.addDays_inverse
#print axioms FP.Props.C09.addDays_monotone
#print axioms FP.Props.C09.addMonths_valid
#print axioms FP.Props.C09.addMonths_inverse
#print axioms FP.Props.C09.timeOfDay_range
#print axioms FP.Props.C09.addNanos_monotone
#print axioms FP.Props.C09.addNanos_inverse_instant
#print axioms FP.Props.C09.unsupported_unit_is_error
#print axioms FP.Props.C09.time_rejects_calendar_units
#print axioms FP.Props.C09.time_wraps
#print axioms FP.Props.C09.finer_units_converted
#print axioms FP.Props.C09.expr_temporal_shift
#print axioms FP.Props.C09.shift_keeps_type_precision_zone
#print axioms FP.Props.C09.utcWall_same_instant
#print axioms FP.Props.C09.zone_roundtrip_same_instant
#print axioms FP.Props.C09.layout_precisions_are_the_layouts
