import FP.Props.C14
#print axioms FP.Props.C14.toChars_count_eq_length
#print axioms FP.Props.C14.substring_out_of_range
#print axioms FP.Props.C14.substring_split
#print axioms FP.Props.C14.substring_spec
#print axioms FP.Props.C14.isPrefix_append
#print axioms FP.Props.C14.startsWith_spec
#print axioms FP.Props.C14.endsWith_spec
#print axioms FP.Props.C14.indexOf_sound
#print axioms FP.Props.C14.contains_iff_indexOf
#print axioms FP.Props.C14.replaceGo_no_match
#print axioms FP.Props.C14.replace_self
#print axioms FP.Props.C14.case_keeps_length
#print axioms FP.Props.C14.case_maps_compose
#print axioms FP.Props.C14.case_stays_ascii
#print axioms FP.Props.C14.expr_case_cardinality
#print axioms FP.Props.C14.joinBytes_nil_delim
#print axioms FP.Props.C14.join_single
#print axioms FP.Props.C14.join_non_string_is_error
#print axioms FP.Props.C14.join_strings
#print axioms FP.Props.C14.toChars_join
