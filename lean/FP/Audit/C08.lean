import FP.Props.C08
#print axioms FP.Props.C08.arith_int_add
#print axioms FP.Props.C08.arith_int_sub
#print axioms FP.Props.C08.arith_int_mul
#print axioms FP.Props.C08.arith_int_floordiv
#print axioms FP.Props.C08.arith_int_mod
#print axioms FP.Props.C08.division_by_zero_empty
#print axioms FP.Props.C08.negate_int
#print axioms FP.Props.C08.abs_int
#print axioms FP.Props.C08.dec_add_exact
#print axioms FP.Props.C08.dec_sub_exact
#print axioms FP.Props.C08.dec_mul_exact
#print axioms FP.Props.C08.dec_quoRem_identity
#print axioms FP.Props.C08.round_int_exact
#print axioms FP.Props.C08.round_noop
#print axioms FP.Props.C08.round_places
#print axioms FP.Props.C08.expr_round_cardinality
#print axioms FP.Props.C08.expr_round_negative_precision
#print axioms FP.Props.C08.expr_round_empty_precision
#print axioms FP.Props.C08.big_pow_out_of_range
#print axioms FP.Props.C08.power_int_exact_or_empty
#print axioms FP.Props.C08.power_int_negative_exponent
