import FP.Props.C11
#print axioms FP.Props.C11.levels_as_specified
#print axioms FP.Props.C11.tight_alternatives_first
#print axioms FP.Props.C11.table_ok
#print axioms FP.Props.C11.minimal_rendering_roundtrip
#print axioms FP.Props.C11.rendering_in_context
#print axioms FP.Props.C11.trailing_rejected
#print axioms FP.Props.C11.full_rendering_roundtrip
#print axioms FP.Props.C11.minimal_rendering_roundtrip_all
#print axioms FP.Props.C11.renderings_agree
#print axioms FP.Props.C11.redundant_parentheses
#print axioms FP.Props.C11.parentheses_transparent
#print axioms FP.Props.C11.type_operator_is_a_suffix
#print axioms FP.Props.C11.lexer_drops_gaps
#print axioms FP.Props.C11.gaps_never_change_the_outcome
#print axioms FP.Props.C11.decorated_rendering_roundtrip
#print axioms FP.Props.C11.decorated_full_rendering_roundtrip
#print axioms FP.Props.C11.white_space_and_comments_separate
#print axioms FP.Props.C11.comment_after_slash_fuses
#print axioms FP.Props.C11.renderings_evaluate_identically
#print axioms FP.Props.C11.rendering_evaluates_the_tree
#print axioms FP.Props.C11.decorated_renderings_evaluate_identically
#print axioms FP.Props.C11.gaps_never_change_the_evaluation
#print axioms FP.Props.C11.visitor_shape_as_modelled
#print axioms FP.Props.C11.right_operand_compiled_with_cleared_flag
#print axioms FP.Props.C11.evaluate_shape_as_modelled
#print axioms FP.Props.C11.operands_evaluated_on_the_same_input
