import FP.Props.C06
#print axioms FP.Props.C06.tables_match_spec
#print axioms FP.Props.C06.tables_never_panic
#print axioms FP.Props.C06.singleton_rule
#print axioms FP.Props.C06.toBool_agrees
#print axioms FP.Props.C06.boolExpr_spec
#print axioms FP.Props.C06.ref_comm
#print axioms FP.Props.C06.and_comm
#print axioms FP.Props.C06.or_comm
#print axioms FP.Props.C06.xor_comm
#print axioms FP.Props.C06.boolExpr_comm
#print axioms FP.Props.C06.de_morgan_and
#print axioms FP.Props.C06.de_morgan_or
#print axioms FP.Props.C06.implies_eq_not_or
#print axioms FP.Props.C06.notFn_spec
#print axioms FP.Props.C06.expr_criterion_multi_item_is_error
#print axioms FP.Props.C06.expr_criterion_single_item
#print axioms FP.Props.C06.expr_connective
