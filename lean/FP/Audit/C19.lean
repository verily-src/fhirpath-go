import FP.Props.C19
#print axioms FP.Props.C19.restParse_abs
#print axioms FP.Props.C19.parse_format_identity
#print axioms FP.Props.C19.format_parse_identity
#print axioms FP.Props.C19.parse_format_fragment
#print axioms FP.Props.C19.nonrest_format
#print axioms FP.Props.C19.empty_rejected
#print axioms FP.Props.C19.refIs_refl
#print axioms FP.Props.C19.refIs_symm
#print axioms FP.Props.C19.refIs_trans
#print axioms FP.Props.C19.canonChar_not_sep
#print axioms FP.Props.C19.canonical_split_reassemble
