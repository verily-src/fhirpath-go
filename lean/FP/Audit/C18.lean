import FP.Props.C18
#print axioms FP.Props.C18.add_error_unchanged
#print axioms FP.Props.C18.delete_error_unchanged
#print axioms FP.Props.C18.insert_error_unchanged
#print axioms FP.Props.C18.replace_error_unchanged
#print axioms FP.Props.C18.delete_absent
#print axioms FP.Props.C18.move_not_implemented
#print axioms FP.Props.C18.nil_value_is_error
#print axioms FP.Props.C18.nil_resource_is_error
#print axioms FP.Props.C18.get_put_other
#print axioms FP.Props.C18.setField_other
#print axioms FP.Props.C18.setField_same
#print axioms FP.Props.C18.setField_id
#print axioms FP.Props.C18.eraseAt_length
#print axioms FP.Props.C18.eraseAt_before
#print axioms FP.Props.C18.eraseAt_after
#print axioms FP.Props.C18.insertAt_length
#print axioms FP.Props.C18.insertAt_at
#print axioms FP.Props.C18.insertAt_before
#print axioms FP.Props.C18.insertAt_after
#print axioms FP.Props.C18.replaceAt_length
#print axioms FP.Props.C18.replaceAt_at
#print axioms FP.Props.C18.replaceAt_other
#print axioms FP.Props.C18.delete_ok_shape
#print axioms FP.Props.C18.locate_sound
#print axioms FP.Props.C18.findIn_sound
