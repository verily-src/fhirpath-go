import FP.Props.C13
#print axioms FP.Props.C13.converts_iff_nonempty
#print axioms FP.Props.C13.result_type
#print axioms FP.Props.C13.self_conversion
#print axioms FP.Props.C13.idempotent
#print axioms FP.Props.C13.follows_table
#print axioms FP.Props.C13.never_fails_partial
#print axioms FP.Props.C13.toInteger_string_fails
#print axioms FP.Props.C13.toString_complex_is_boolean
#print axioms FP.Props.C13.boolean_roundtrip
#print axioms FP.Props.C13.integer_roundtrip
#print axioms FP.Props.C13.date_table_ok
#print axioms FP.Props.C13.dateTime_table_ok
#print axioms FP.Props.C13.time_table_ok
#print axioms FP.Props.C13.date_roundtrip
#print axioms FP.Props.C13.dateTime_roundtrip
#print axioms FP.Props.C13.time_roundtrip
#print axioms FP.Props.C13.dateTime_roundtrip_fine
#print axioms FP.Props.C13.time_roundtrip_fine
#print axioms FP.Props.C13.decimal_roundtrip
#print axioms FP.Props.C13.quantity_word_roundtrip_partial
#print axioms FP.Props.C13.quantity_ucum_counterexample
#print axioms FP.Props.C13.layout_lists_as_specified
#print axioms FP.Props.C13.every_layout_is_parsed
#print axioms FP.Props.C13.date_widening_keeps_precision
#print axioms FP.Props.C13.expr_converts_iff_nonempty
#print axioms FP.Props.C13.expr_conversion_cardinality
