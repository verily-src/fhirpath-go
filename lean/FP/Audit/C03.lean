import FP.Props.C03
#print axioms FP.Props.C03.append_targets_fresh
#print axioms FP.Props.C03.no_store_into_an_argument
#print axioms FP.Props.C03.indexed_stores_into_fresh_locals
#print axioms FP.Props.C03.eval_uses_readonly_proto_api
#print axioms FP.Props.C03.fresh_not_caller
#print axioms FP.Props.C03.appends_from_fresh_preserve
#print axioms FP.Props.C03.append_to_caller_slice_writes
#print axioms FP.Props.C03.reslice_reads_only
