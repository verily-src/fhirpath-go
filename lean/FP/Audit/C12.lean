import FP.Props.C12
#print axioms FP.Props.C12.parent_agrees
#print axioms FP.Props.C12.chains_short
#print axioms FP.Props.C12.is_agrees
#print axioms FP.Props.C12.is_cross_namespace
#print axioms FP.Props.C12.is_system
#print axioms FP.Props.C12.typeOf_code
#print axioms FP.Props.C12.typeOf_nested
#print axioms FP.Props.C12.typeOf_primitives
#print axioms FP.Props.C12.resolve_fhir_first
#print axioms FP.Props.C12.resolve_system
#print axioms FP.Props.C12.resolve_case_sensitive
#print axioms FP.Props.C12.long_specifier_rejected
#print axioms FP.Props.C12.short_specifier_resolved
#print axioms FP.Props.C12.expr_as_iff_is
#print axioms FP.Props.C12.expr_type_op_cardinality
#print axioms FP.Props.C12.expr_system_value_types
#print axioms FP.Props.C12.expr_compile_type_specifier
