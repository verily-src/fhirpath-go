import FP.Props.C17
#print axioms FP.Props.C17.applyAll_errs_append
#print axioms FP.Props.C17.failing_option_prevents_evaluation
#print axioms FP.Props.C17.nested_collection_unsupported
#print axioms FP.Props.C17.unsupported_deeply_nested
#print axioms FP.Props.C17.duplicate_name_existing
#print axioms FP.Props.C17.predefined_name_existing
#print axioms FP.Props.C17.supplied_value_is_read_back
#print axioms FP.Props.C17.context_is_input
#print axioms FP.Props.C17.collection_spliced
#print axioms FP.Props.C17.unknown_variable_error
#print axioms FP.Props.C17.good_signature
#print axioms FP.Props.C17.bad_signature_rejected
#print axioms FP.Props.C17.existing_name_rejected
#print axioms FP.Props.C17.registered_arity
#print axioms FP.Props.C17.custom_call_passes_through
#print axioms FP.Props.C17.custom_call_checks_args
#print axioms FP.Props.C17.expr_variable
#print axioms FP.Props.C17.expr_predefined
#print axioms FP.Props.C17.expr_unknown_variable_propagates
