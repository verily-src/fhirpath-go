import FP.Props.C10
#print axioms FP.Props.C10.Simple.truth
#print axioms FP.Props.C10.where_multi_item_error
#print axioms FP.Props.C10.exists_eq_where_exists
#print axioms FP.Props.C10.all_iff_forall
#print axioms FP.Props.C10.select_eq_flatMap
#print axioms FP.Props.C10.empty_iff_count_zero
#print axioms FP.Props.C10.first_eq_take1
#print axioms FP.Props.C10.tail_eq_skip1
#print axioms FP.Props.C10.last_eq_skip_pred
#print axioms FP.Props.C10.index_out_of_range
#print axioms FP.Props.C10.index_in_range
#print axioms FP.Props.C10.distinct_subset
#print axioms FP.Props.C10.distinct_covers
#print axioms FP.Props.C10.distinct_pairwise
#print axioms FP.Props.C10.isDistinct_iff_count
#print axioms FP.Props.C10.intersect_spec
#print axioms FP.Props.C10.exclude_partial
#print axioms FP.Props.C10.exclude_counterexample
#print axioms FP.Props.C10.take_subset
#print axioms FP.Props.C10.skip_subset
#print axioms FP.Props.C10.expr_exists_eq_where_exists
#print axioms FP.Props.C10.expr_first_index_take
#print axioms FP.Props.C10.expr_tail_eq_skip1
#print axioms FP.Props.C10.expr_take_skip_partition
#print axioms FP.Props.C10.expr_seq
#print axioms FP.Props.C10.expr_where_eq_filter
#print axioms FP.Props.C10.expr_this_is_the_item
#print axioms FP.Props.C10.argument_evaluation_as_modelled
