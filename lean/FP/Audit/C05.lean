import FP.Props.C05
#print axioms FP.Props.C05.coll_eq_true_iff
#print axioms FP.Props.C05.coll_length_mismatch_false
#print axioms FP.Props.C05.coll_complex_all
#print axioms FP.Props.C05.eq_empty_operand
#print axioms FP.Props.C05.cmp_empty_operand
#print axioms FP.Props.C05.tmp_lt_asymm
#print axioms FP.Props.C05.tmp_lt_excludes_eq
#print axioms FP.Props.C05.tmp_lt_error_symm
#print axioms FP.Props.C05.tmp_lt_trans_components
#print axioms FP.Props.C05.hour_offset_layout_compares_components
#print axioms FP.Props.C05.tmp_lt_trans_same_layout
#print axioms FP.Props.C05.tmp_eq_symm
#print axioms FP.Props.C05.dec_lt_trans
#print axioms FP.Props.C05.dec_trichotomy
#print axioms FP.Props.C05.dec_eq_symm
#print axioms FP.Props.C05.int_dec_eq
#print axioms FP.Props.C05.precision_tables_are_the_layouts
#print axioms FP.Props.C05.expr_ne_is_negation
#print axioms FP.Props.C05.expr_le_is_not_gt
